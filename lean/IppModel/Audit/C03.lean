import IppModel.Props.C03
#print axioms Ipp.Props.C03.any_message
#print axioms Ipp.Props.C03.wf_message
#print axioms Ipp.Props.C03.reference_encoding
#print axioms Ipp.Props.C03.wellformed
#print axioms Ipp.Props.C03.means_what_was_encoded
#print axioms Ipp.Props.C03.registered_tags
#print axioms Ipp.Props.C03.single_end_tag
#print axioms Ipp.Props.C03.additional_values_shape
#print axioms Ipp.Props.C03.independent_decoder_correct
#print axioms Ipp.Props.C03.independent_decoder_reads_encoder
#print axioms Ipp.Props.C03.header_is_8
#print axioms Ipp.Props.C03.header_change
#print axioms Ipp.Props.C03.no_groups
