import IppModel.Props.C09
#print axioms Ipp.Props.C09.header_attrs_pin
#print axioms Ipp.Props.C09.names_pin
#print axioms Ipp.Props.C09.wire_order
#print axioms Ipp.Props.C09.rest_has_no_header_attr
#print axioms Ipp.Props.C09.charset_language_first
#print axioms Ipp.Props.C09.keyFn_of_keysNodup
#print axioms Ipp.Props.C09.prefix_order_independent
#print axioms Ipp.Props.C09.good_add
#print axioms Ipp.Props.C09.good_adds
#print axioms Ipp.Props.C09.good_of_head
#print axioms Ipp.Props.C09.good_newRequest
#print axioms Ipp.Props.C09.good_newResponse
#print axioms Ipp.Props.C09.good_buildOp
#print axioms Ipp.Props.C09.built_then_added_in_order
