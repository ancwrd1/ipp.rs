import IppModel.Props.C14
#print axioms Ipp.Props.C14.arms_pin
#print axioms Ipp.Props.C14.dec_631
#print axioms Ipp.Props.C14.ipp_maps_to_http
#print axioms Ipp.Props.C14.ipps_maps_to_https
#print axioms Ipp.Props.C14.ipps_with_port
#print axioms Ipp.Props.C14.other_schemes_unchanged
#print axioms Ipp.Props.C14.transport_partial
#print axioms Ipp.Props.C14.portless_ipps_counterexample
#print axioms Ipp.Props.C14.portless_ipps_gets_443
