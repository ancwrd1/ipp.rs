import IppModel.Props.C19
#print axioms Ipp.Props.C19.no_kind
#print axioms Ipp.Props.C19.add_into_first
#print axioms Ipp.Props.C19.add_appends_new
#print axioms Ipp.Props.C19.add_lookup
#print axioms Ipp.Props.C19.history_general
#print axioms Ipp.Props.C19.history_from_empty
#print axioms Ipp.Props.C19.history_tags
#print axioms Ipp.Props.C19.groups_of_order
#print axioms Ipp.Props.C19.next_eq
#print axioms Ipp.Props.C19.valueSize_eq
#print axioms Ipp.Props.C19.collect_eq
#print axioms Ipp.Props.C19.collect_all
#print axioms Ipp.Props.C19.traversal
#print axioms Ipp.Props.C19.traversal_ends
#print axioms Ipp.Props.C19.traversal_exhausts
