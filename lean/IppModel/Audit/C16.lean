import IppModel.Props.C16
#print axioms Ipp.Props.C16.extraction_complete
#print axioms Ipp.Props.C16.status_table
#print axioms Ipp.Props.C16.operation_table
#print axioms Ipp.Props.C16.delimiter_table
#print axioms Ipp.Props.C16.value_tag_table
#print axioms Ipp.Props.C16.printer_state_table
#print axioms Ipp.Props.C16.job_state_table
#print axioms Ipp.Props.C16.orientation_table
#print axioms Ipp.Props.C16.print_quality_table
#print axioms Ipp.Props.C16.finishings_table
#print axioms Ipp.Props.C16.sameEntries_of_tableOk
#print axioms Ipp.Props.C16.delimiter_table_exact
#print axioms Ipp.Props.C16.value_tag_table_exact
#print axioms Ipp.Props.C16.operation_table_exact
#print axioms Ipp.Props.C16.mem_table
#print axioms Ipp.Props.C16.statusOf_cases
#print axioms Ipp.Props.C16.status_defined
#print axioms Ipp.Props.C16.status_total
#print axioms Ipp.Props.C16.status_never_foreign
#print axioms Ipp.Props.C16.unknown_not_success
#print axioms Ipp.Props.C16.success_codes_small
#print axioms Ipp.Props.C16.success_class
#print axioms Ipp.Props.C16.rfc_success
