import IppModel.Props.C17
#print axioms Ipp.Props.C17.error_states_pin
#print axioms Ipp.Props.C17.error_states_contains
#print axioms Ipp.Props.C17.names_pin
#print axioms Ipp.Props.C17.fromCode_stopped
#print axioms Ipp.Props.C17.printerStateOf_stopped
#print axioms Ipp.Props.C17.keywords_iterAll
#print axioms Ipp.Props.C17.state_stopped
#print axioms Ipp.Props.C17.ready_iff
#print axioms Ipp.Props.C17.error_iff_not_success
#print axioms Ipp.Props.C17.stopped_not_ready
#print axioms Ipp.Props.C17.blocked_not_ready
#print axioms Ipp.Props.C17.otherwise_ready
