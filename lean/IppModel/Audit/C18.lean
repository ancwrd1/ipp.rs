import IppModel.Props.C18
#print axioms Ipp.Props.C18.true_is_boolean
#print axioms Ipp.Props.C18.false_is_boolean
#print axioms Ipp.Props.C18.integer_text
#print axioms Ipp.Props.C18.keyword_text
#print axioms Ipp.Props.C18.classification
#print axioms Ipp.Props.C18.cliPrint_noCheck
#print axioms Ipp.Props.C18.cliPrint_ready
#print axioms Ipp.Props.C18.submitExit_eq_zero
#print axioms Ipp.Props.C18.no_check_submits
#print axioms Ipp.Props.C18.not_ready_submits_nothing
#print axioms Ipp.Props.C18.ready_submits
#print axioms Ipp.Props.C18.exit_zero_iff
#print axioms Ipp.Props.C18.print_job_is_a_builder_result
