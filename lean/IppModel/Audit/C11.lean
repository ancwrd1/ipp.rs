import IppModel.Props.C11
#print axioms Ipp.Props.C11.one_post
#print axioms Ipp.Props.C11.body_decodes_to_request
#print axioms Ipp.Props.C11.custom_header_last_wins
#print axioms Ipp.Props.C11.basic_credentials
#print axioms Ipp.Props.C11.basic_header_on_wire
#print axioms Ipp.Props.C11.error_status_is_error
#print axioms Ipp.Props.C11.timeout_is_error
#print axioms Ipp.Props.C11.timedOut_none
#print axioms Ipp.Props.C11.exact_response
#print axioms Ipp.Props.C11.cut_is_error
#print axioms Ipp.Props.C11.sends_are_independent
