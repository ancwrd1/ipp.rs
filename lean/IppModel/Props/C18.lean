/-
  C18 — `ipputil print` sends the file unchanged, types options, honours the state check.
  PARTIAL: clap, file reading, the HTTP exchanges and the process exit status are parameters observed with the
  real binary; the theorems cover the text classification of option values and the control flow of
  `do_print_job` (Model/Cli.lean), which reuse the builder model of C10 and the readiness model of C17.
-/
import IppModel.Model.Cli
namespace Ipp.Props.C18
open Ipp.Gen

/-! ### option values are typed by their text -/

theorem true_is_boolean : valueFromStr trueLit = .bool true :=
  if_pos rfl
theorem false_is_boolean : valueFromStr falseLit = .bool false :=
  (if_neg (by decide)).trans (if_pos rfl)

/-- a decimal 32-bit integer (optional sign, digits, in range) becomes an integer -/
theorem integer_text (s : Bytes) (v : UInt32) (h : parseI32 s = some v) : valueFromStr s = .int .integer v := by
  -- a text that parses as a number is neither of the two literals, which do not
  have ne : ∀ t, parseI32 t = none → s ≠ t := by
    intro t ht e
    rw [e, ht] at h
    cases h
  rw [valueFromStr, if_neg (ne trueLit (by decide)), if_neg (ne falseLit (by decide)), h]

/-- anything else – also `True`, `1e3`, out-of-range numbers, texts containing '=' – is a keyword, unchanged -/
theorem keyword_text (s : Bytes) (h1 : s ≠ trueLit) (h2 : s ≠ falseLit) (h : parseI32 s = none) :
    valueFromStr s = .str .keyword s := by
  rw [valueFromStr, if_neg h1, if_neg h2, h]

/-- the three classes are exhaustive and exclusive -/
theorem classification (s : Bytes) :
    (valueFromStr s = .bool true ∧ s = trueLit) ∨ (valueFromStr s = .bool false ∧ s = falseLit) ∨
    (∃ v, valueFromStr s = .int .integer v ∧ parseI32 s = some v) ∨ (valueFromStr s = .str .keyword s ∧ parseI32 s = none) := by
  by_cases h1 : s = trueLit
  · exact .inl ⟨h1 ▸ true_is_boolean, h1⟩
  · by_cases h2 : s = falseLit
    · exact .inr (.inl ⟨h2 ▸ false_is_boolean, h2⟩)
    · cases h : parseI32 s with
      | some v => exact .inr (.inr (.inl ⟨v, integer_text s v h, rfl⟩))
      | none => exact .inr (.inr (.inr ⟨keyword_text s h1 h2 h, rfl⟩))

/-- what counts as a decimal i32: examples at the boundaries -/
example : parseI32 [0x32, 0x31, 0x34, 0x37, 0x34, 0x38, 0x33, 0x36, 0x34, 0x37] = some 2147483647 := by decide   -- "2147483647"
example : parseI32 [0x32, 0x31, 0x34, 0x37, 0x34, 0x38, 0x33, 0x36, 0x34, 0x38] = none := by decide              -- "2147483648"
example : parseI32 [0x2d, 0x32, 0x31, 0x34, 0x37, 0x34, 0x38, 0x33, 0x36, 0x34, 0x38] = some 2147483648 := by decide  -- "-2147483648" (pattern 0x80000000)
example : parseI32 [0x2b] = none := by decide                                                                       -- "+"
example : parseI32 [0x31, 0x65, 0x33] = none := by decide                                                           -- "1e3"

/-- `key=value` splits at the first '=': the value keeps any further '=' -/
example : splitOnce [0x61, 0x3d, 0x62, 0x3d, 0x63] = some ([0x61], [0x62, 0x3d, 0x63]) := by decide   -- "a=b=c"
/-- an option without '=' is dropped -/
example : optionAttrs [[0x61, 0x62]] = [] := by decide

/-- exit status of the submission: zero when the first answer to it is a response with a successful status -/
def submitExit : List Answer → Nat
  | .response h _ :: _ => if isSuccess (statusOf h.opOrStatus.toNat) then 0 else 1
  | _ => 1

theorem cliPrint_noCheck (a : PrintArgs) (answers : List Answer) (h : a.noCheckState = true) :
    cliPrint a answers = ([cliPrintJob a], submitExit answers) := by
  unfold cliPrint
  rw [if_pos h]
  rcases answers with _ | ⟨_ | _, _⟩ <;> rfl

theorem cliPrint_ready (a : PrintArgs) (hd : Header) (gs : List Group) (rest : List Answer)
    (h : a.noCheckState = false) (hr : isPrinterReady hd gs = .ok true) :
    cliPrint a (.response hd gs :: rest) = ([cliGetAttrs a, cliPrintJob a], submitExit rest) := by
  unfold cliPrint
  rw [if_neg (ne_true_of_eq_false h)]
  simp only [hr]
  rcases rest with _ | ⟨_ | _, _⟩ <;> rfl

theorem submitExit_eq_zero (answers : List Answer) :
    submitExit answers = 0 ↔
      ∃ h gs rest, answers = .response h gs :: rest ∧ isSuccess (statusOf h.opOrStatus.toNat) = true := by
  rcases answers with _ | ⟨_ | ⟨h, gs⟩, rest⟩ <;> simp [submitExit]

/-- With the state check off exactly one request – the Print-Job – is sent, whatever the printer is like. -/
theorem no_check_submits (a : PrintArgs) (answers : List Answer) (h : a.noCheckState = true) :
    (cliPrint a answers).1 = [cliPrintJob a] := by
  rw [cliPrint_noCheck a answers h]

/-- With the state check on, a printer that is stopped, blocked, answers with an unsuccessful status or
    cannot be reached gets no job: only the query is sent and the exit status is non-zero. -/
theorem not_ready_submits_nothing (a : PrintArgs) (answers : List Answer) (h : a.noCheckState = false)
    (hn : ∀ hd gs rest, answers = .response hd gs :: rest → isPrinterReady hd gs ≠ .ok true) :
    cliPrint a answers = ([cliGetAttrs a], 1) := by
  unfold cliPrint
  rw [if_neg (ne_true_of_eq_false h)]
  rcases answers with _ | ⟨_ | ⟨hd, gs⟩, r⟩
  · rfl
  · rfl
  · dsimp only
    split
    · exact absurd ‹_› (hn hd gs r rfl)
    · rfl

/-- A ready printer gets the query and then exactly one Print-Job carrying the document unchanged. -/
theorem ready_submits (a : PrintArgs) (hd : Header) (gs : List Group) (rest : List Answer)
    (h : a.noCheckState = false) (hr : isPrinterReady hd gs = .ok true) :
    (cliPrint a (.response hd gs :: rest)).1 = [cliGetAttrs a, cliPrintJob a] ∧ (cliPrintJob a).payload = a.document :=
  ⟨by rw [cliPrint_ready a hd gs rest h hr], rfl⟩

/-- The exit status is zero exactly when every exchange succeeded with a successful IPP status. -/
theorem exit_zero_iff (a : PrintArgs) (answers : List Answer) :
    (cliPrint a answers).2 = 0 ↔
      (if a.noCheckState then
         ∃ h gs rest, answers = .response h gs :: rest ∧ isSuccess (statusOf h.opOrStatus.toNat) = true
       else
         ∃ h1 g1 h2 g2 rest, answers = .response h1 g1 :: .response h2 g2 :: rest ∧
           isPrinterReady h1 g1 = .ok true ∧ isSuccess (statusOf h2.opOrStatus.toNat) = true) := by
  cases hn : a.noCheckState with
  | true =>
    rw [cliPrint_noCheck a answers hn, if_pos rfl]
    exact submitExit_eq_zero answers
  | false =>
    by_cases hr : ∃ h1 g1 rest, answers = .response h1 g1 :: rest ∧ isPrinterReady h1 g1 = .ok true
    · obtain ⟨h1, g1, rest, rfl, hr⟩ := hr
      rw [cliPrint_ready a h1 g1 rest hn hr, submitExit_eq_zero]
      constructor
      · rintro ⟨h2, g2, r, rfl, hs⟩
        exact ⟨h1, g1, h2, g2, r, rfl, hr, hs⟩
      · rintro ⟨_, _, h2, g2, r, e, _, hs⟩
        cases e
        exact ⟨h2, g2, r, rfl, hs⟩
    · rw [not_ready_submits_nothing a answers hn fun hd gs rest e hrd => hr ⟨hd, gs, rest, e, hrd⟩]
      constructor
      · intro e
        cases e
      · rintro ⟨h1, g1, _, _, r, e, hrd, _⟩
        exact absurd ⟨h1, g1, _, e, hrd⟩ hr

/-- the job name, user name and options reach the request as C10 describes (they are builder calls) -/
theorem print_job_is_a_builder_result (a : PrintArgs) :
    cliPrintJob a = buildOp .printJob a.uri 0 a.document
      ((match a.jobName with | some j => [Call.jobTitle j] | none => []) ++
       (match a.userName with | some u => [Call.userName u] | none => []) ++
       (optionAttrs a.options).map fun (k, v) => Call.attribute k v) := rfl

end Ipp.Props.C18
