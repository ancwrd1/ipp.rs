/-
  C20 — serde feature: header and attributes survive serialise/deserialise.
  PARTIAL: serde's derive conventions and serde_json are modelled libraries (Model/Json.lean); the field
  and variant names the derive uses are regenerated from the Rust type definitions on every run, and the
  real `serde_json` output is compared with the model's JSON value on every case.
-/
import IppModel.Lemmas.JsonRt
namespace Ipp.Props.C20
open Ipp.Gen Ipp.Spec

/-- only the payload is skipped by the derive -/
theorem skipped_pin : Gen.serdeSkipped = [[0x70, 0x61, 0x79, 0x6c, 0x6f, 0x61, 0x64]] := by decide

/-- every value kind – also raw-octet values and nested collections – survives -/
theorem value_roundtrip (v : Value) (h : collsSorted v = true) : jsonToValue (valueToJson v) = some v :=
  JsonRt.rt_value v h

/-- deserialising the serialised header and attributes reproduces the same header, groups, names and values -/
theorem message_roundtrip (h : Header) (gs : List Group) (hc : mapsCanonical gs = true) :
    jsonToMsg (msgToJson h gs) = some (h, gs) := by
  simp +decide only [msgToJson, jsonToMsg, jget, ↓reduceIte, Option.bind, JsonRt.jnat_u16, JsonRt.jnat_u32,
    JsonRt.jsonToGroups_rt gs hc, Option.map, UInt16.ofNat_toNat, UInt32.ofNat_toNat]

/-- the messages of C01's domain satisfy the hypothesis -/
theorem domain_of_C01 (gs : List Group) (hw : wfMsg gs = true) : mapsCanonical gs = true := by
  simp only [wfMsg, wfGroupC, wfAttrC, mapsCanonical, Bool.and_eq_true, List.all_eq_true] at hw ⊢
  exact fun g hg => ⟨(hw.2 g hg).1.2, fun p hp => ((hw.2 g hg).2 p hp).2⟩

/-- the payload is not part of the JSON value: the top-level object has exactly the two other fields -/
theorem payload_not_serialised (h : Header) (gs : List Group) :
    ∃ a b, msgToJson h gs = .obj [(J.header, a), (J.attributes, b)] := ⟨_, _, rfl⟩

end Ipp.Props.C20
