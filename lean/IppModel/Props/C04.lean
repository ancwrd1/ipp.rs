/-
  C04 — the parser reads every well-formed RFC 8010 message as the RFC says.
  `Spec.ser` / `Spec.interp` / `Spec.wfWire` are written from the RFC (Spec/Wire.lean); `parseFlat` is the
  model of the blocking parser.  The refinement theorem covers every wire tree: repeated and empty groups,
  out-of-band and unregistered syntaxes, mixed sets, multi-valued collection members, sets of collections,
  text that is not UTF-8, duplicate names (last wins, as in a map), any payload after the end tag.
-/
import IppModel.Lemmas.Refine
namespace Ipp.Props.C04
open Ipp.Gen Ipp.Spec

/-- Every well-formed wire tree, followed by any payload, parses to exactly its RFC reading and leaves
    exactly the payload. -/
theorem parse_wellformed (w : WMsg) (p : Bytes) (h : wfWire w = true) :
    parseFlat (ser w ++ p) = .ok (interp w, p) := by
  obtain ⟨s', hr, hp⟩ := parseFlat_groups w.version w.op w.id w.groups h
  have hend : driveLoop flatRd syncLoop pMachine 1 (0x03 :: p) s' =
      .ok (mkSt (interpGroups w.groups) .EndOfAttributes [] none, p) :=
    driveLoop_delim hr (t := .EndOfAttributes) rfl (by decide) 0 p
  simp only [ser, List.append_assoc, List.cons_append, List.nil_append]
  rw [hp _ 1 (hend ▸ nofun), hend]
  rfl

/-- A byte outside the delimiter and value tag ranges where a tag is expected makes the message be
    rejected, not skipped: after the header and any number of complete well-formed groups. -/
theorem reject_bad_tag (v o : UInt16) (i : UInt32) (gs : List WGroup) (b : UInt8) (r : Bytes)
    (h : wfGroups gs = true) (hb : b = 0 ∨ (5 < b ∧ b < 0x10) ∨ 0x4a < b) :
    parseFlat (be16 v.toNat ++ (be16 o.toNat ++ (be32 i ++ (serGroups gs ++ b :: r)))) = .err (.invalidTag b) := by
  obtain ⟨s', _, hp⟩ := parseFlat_groups v o i gs h
  have hbad : driveLoop flatRd syncLoop pMachine 1 (b :: r) s' = .err (.invalidTag b) := by
    simp only [← UInt8.toNat_inj, UInt8.lt_iff_toNat_lt, UInt8.reduceToNat] at hb
    rw [driveLoop_succ, rdItem_flat_bad _ _ _ (show ¬(1 ≤ b.toNat ∧ b.toNat ≤ 5) by omega)
      (show ¬(16 ≤ b.toNat ∧ b.toNat ≤ 74) by omega)]
    rfl
  rw [hp _ 1 (hbad ▸ nofun), hbad]
  rfl

/-- non-vacuity: a tree with a repeated group, an empty group, a mixed set, a collection with a
    two-valued member and a nested collection, non-UTF-8 text and an unregistered tag is well-formed -/
def demo : WMsg :=
  ⟨0x0101, 0x0002, 7,
   [⟨0x01, [⟨[0x61], [.plain 0x21 [0, 0, 0, 5], .plain 0x44 [0x6b]]⟩,
            ⟨[0x63], [.coll [([0x6d], [.plain 0x21 [0, 0, 0, 1], .plain 0x22 [1]]),
                             ([0x6e], [.coll [([0x78], [.plain 0x41 [0xff, 0xfe]])]])]]⟩]⟩,
    ⟨0x02, []⟩, ⟨0x01, [⟨[0x7a], [.plain 0x2f [1, 2, 3]]⟩]⟩]⟩

example : wfWire demo = true := by decide

end Ipp.Props.C04
