/-
  C15 — parsing cost is linear in the input: no amplification by nesting or width.
  PARTIAL: the theorem is about the cost model of Model/Cost.lean (what the code does per token, with the
  cost semantics of Vec / HashMap / BTreeMap as constants); the real allocator is observed by the harness.
-/
import IppModel.Lemmas.CostLin
namespace Ipp.Props.C15
open Ipp.Gen

/-- the cost-annotated parser is the parser: same result, same rest, same errors -/
theorem cost_model_is_the_parser (bs : Bytes) :
    (match parseCost bs with
     | .ok ((r, _), rest) => Outcome.ok (r, rest)
     | .err e => .err e
     | .panic => .panic
     | .outOfFuel => .outOfFuel) = parseFlat bs := by
  have hd (c : CState) t : pMachine.delim c.st t = (cMachine.delim c t).map fun p => (p.1.st, p.2) := by
    simp only [pMachine, cMachine]
    cases c.st.parseDelimiter t <;> rfl
  have hv (c : CState) t n b : pMachine.value c.st t n b = (cMachine.value c t n b).map CState.st := by
    simp only [pMachine, cMachine]
    cases c.st.parseValue t (lossy n) b <;> rfl
  unfold parseCost parseFlat parseWith
  cases rdHeader flatRd bs with
  | ok p =>
    have := driveLoop_map flatRd syncLoop cMachine pMachine CState.st hd hv (bs.length + 1) p.2 ⟨PState.init, 8⟩
    dsimp only at this ⊢
    rw [this]
    cases driveLoop flatRd syncLoop cMachine (bs.length + 1) p.2 ⟨PState.init, 8⟩ <;> rfl
  | _ => rfl

/-- For every input – any nesting depth, set width, number of attributes, members or groups, well-formed
    or not – the work done is at most 8 units per byte consumed plus 8. -/
theorem linear (bs : Bytes) (r : Header × List Group) (cost : Nat) (rest : Bytes)
    (h : parseCost bs = .ok ((r, cost), rest)) : cost ≤ 8 * (bs.length - rest.length) + 8 := by
  unfold parseCost at h
  cases hh : rdHeader flatRd bs with
  | ok p =>
    cases hl : driveLoop flatRd syncLoop cMachine (bs.length + 1) p.2 ⟨PState.init, 8⟩ with
    | ok q =>
      simp only [hh, hl, Outcome.ok.injEq, Prod.mk.injEq] at h
      obtain ⟨⟨_, rfl⟩, rfl⟩ := h
      have h1 : p.2.length + 8 ≤ bs.length := by have := rdHeader_shrinks flatRd_laws bs; rwa [hh] at this
      have h2 := driveLoop_pays flatRd_laws syncLoop cMachine (fun c => c.cost + phi c.st) 8
        cMachine_delim_step cMachine_value_step (bs.length + 1) p.2 ⟨PState.init, 8⟩ (by omega)
      rw [hl] at h2
      simp only [Outcome.Sat, phi_init] at h2
      omega
    | _ => simp [hh, hl] at h
  | _ => simp [hh] at h

end Ipp.Props.C15
