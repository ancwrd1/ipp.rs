/-
  C09 — mandatory operation attributes are emitted in the order RFC 8011 §4.1.4–4.1.5 requires.
  The encoder walks a *listing* (the order in which the hash map instance happens to iterate); the
  theorems hold for every listing, i.e. for every iteration order, and for every message reachable from
  the constructors and builders by any sequence of further additions.
-/
import IppModel.Lemmas.OpOrder
import IppModel.Props.C10
namespace Ipp.Props.C09
open Ipp.Gen Ipp.Spec

/-- the translated `HEADER_ATTRS` is exactly the RFC 8011 order: charset, language, printer-uri, job-uri, job-id -/
theorem header_attrs_pin : Gen.headerAttrs = rfc8011Order := headerAttrs_pin

theorem names_pin : A.ATTRIBUTES_CHARSET = rfc8011Order[0]! ∧ A.ATTRIBUTES_NATURAL_LANGUAGE = rfc8011Order[1]! ∧
    A.PRINTER_URI = rfc8011Order[2]! ∧ A.JOB_URI = rfc8011Order[3]! ∧ A.JOB_ID = rfc8011Order[4]! :=
  ⟨rfl, rfl, rfl, rfl, rfl⟩

/-- encoding of attribute `n` if the group has it -/
def opt (n : Bytes) (attrs : List (Bytes × Value)) : Bytes :=
  match sget n attrs with
  | some v => encAttr n v
  | none => []

/-- Shape of every encoded message whose first group is the operation group, for every listing:
    header, operation-group tag, then charset, natural language, printer-uri, job-uri, job-id (those
    present, in this order), then the remaining operation attributes, the other groups, the end tag. -/
theorem wire_order (h : Header) (g : Group) (ls : List Group) (hop : g.tag = .OperationAttributes) :
    encodeMsg h (g :: ls) =
      encHeader h ++ (0x01 :: (opt A.ATTRIBUTES_CHARSET g.attrs ++ (opt A.ATTRIBUTES_NATURAL_LANGUAGE g.attrs ++
        (opt A.PRINTER_URI g.attrs ++ (opt A.JOB_URI g.attrs ++ (opt A.JOB_ID g.attrs ++
          (encNonHeaderAttrs g.attrs ++ (encGroups ls ++ [0x03])))))))) := by
  simp only [encodeMsg, encAttributes, firstOp, restGroups, isOpGroup, hop, decide_true, ↓reduceIte, headerAttrs,
    encHeaderAttrs, List.append_assoc, List.nil_append]
  rfl

/-- the part after the header attributes never contains one of them -/
theorem rest_has_no_header_attr (attrs : List (Bytes × Value)) :
    encNonHeaderAttrs attrs = encAttrs (attrs.filter fun p => !isHeaderAttr p.1) :=
  encNonHeaderAttrs_eq attrs

/-- With charset and natural language present (as in every request and response the library builds) the
    first attribute on the wire is attributes-charset and the second attributes-natural-language;
    printer-uri, job-uri, job-id follow immediately when present. -/
theorem charset_language_first (h : Header) (g : Group) (ls : List Group) (hop : g.tag = .OperationAttributes)
    (vc vl : Value) (hc : sget A.ATTRIBUTES_CHARSET g.attrs = some vc) (hl : sget A.ATTRIBUTES_NATURAL_LANGUAGE g.attrs = some vl) :
    ∃ tail, encodeMsg h (g :: ls) =
      encHeader h ++ (0x01 :: (encAttr A.ATTRIBUTES_CHARSET vc ++ (encAttr A.ATTRIBUTES_NATURAL_LANGUAGE vl ++
        (opt A.PRINTER_URI g.attrs ++ (opt A.JOB_URI g.attrs ++ (opt A.JOB_ID g.attrs ++ tail)))))) := by
  refine ⟨encNonHeaderAttrs g.attrs ++ (encGroups ls ++ [0x03]), ?_⟩
  rw [wire_order h g ls hop, opt, opt, hc, hl]

def keysNodup : List (Bytes × Value) → Bool
  | [] => true
  | p :: r => !(r.any fun q => q.1 == p.1) && keysNodup r

/-- unique names make the listing a function on names, which is all the lookups see -/
theorem keyFn_of_keysNodup {l : List (Bytes × Value)} (h : keysNodup l = true) : KeyFn l := by
  induction l with
  | nil => exact nofun
  | cons p r ih =>
    simp only [keysNodup, Bool.and_eq_true, Bool.not_eq_true', List.any_eq_false, beq_iff_eq] at h
    exact KeyFn_cons h.1 (ih h.2)

/-- The bytes up to and including the last RFC 8011 header attribute are the same for every iteration
    order of the operation group's map (and of all other maps). -/
theorem prefix_order_independent (h : Header) (g g' : Group) (ls ls' : List Group)
    (hop : g.tag = .OperationAttributes) (ht : g'.tag = g.tag) (hp : g.attrs.Perm g'.attrs)
    (hn : keysNodup g.attrs = true) :
    ∃ pre tail tail', encodeMsg h (g :: ls) = pre ++ tail ∧ encodeMsg h (g' :: ls') = pre ++ tail' ∧
      pre = encHeader h ++ (0x01 :: (opt A.ATTRIBUTES_CHARSET g.attrs ++ (opt A.ATTRIBUTES_NATURAL_LANGUAGE g.attrs ++
        (opt A.PRINTER_URI g.attrs ++ (opt A.JOB_URI g.attrs ++ opt A.JOB_ID g.attrs))))) := by
  refine ⟨_, encNonHeaderAttrs g.attrs ++ (encGroups ls ++ [0x03]), encNonHeaderAttrs g'.attrs ++ (encGroups ls' ++ [0x03]), ?_, ?_, rfl⟩
  · simp only [wire_order h g ls hop, List.append_assoc, List.cons_append]
  · simp only [wire_order h g' ls' (ht.trans hop), opt, sget_congr (keyFn_of_keysNodup hn) (fun _ => hp.mem_iff.symm),
      List.append_assoc, List.cons_append]

/-! ### the premise holds for everything the public API can build -/

/-- the message starts with the operation group, which has charset and natural language -/
def Good (gs : List Group) : Prop :=
  ∃ g ls, gs = g :: ls ∧ g.tag = .OperationAttributes ∧
    (sget A.ATTRIBUTES_CHARSET g.attrs).isSome ∧ (sget A.ATTRIBUTES_NATURAL_LANGUAGE g.attrs).isSome

theorem good_add (gs : List Group) (t : DelimiterTag) (n : Bytes) (v : Value) (h : Good gs) : Good (addAttr t n v gs) := by
  obtain ⟨g, ls, rfl, hop, hc, hl⟩ := h
  rw [addAttr]
  split
  · exact ⟨_, ls, rfl, hop, sget_isSome_sinsert _ _ _ _ hc, sget_isSome_sinsert _ _ _ _ hl⟩
  · exact ⟨g, _, rfl, hop, hc, hl⟩

theorem good_adds (gs : List Group) (ops : List (DelimiterTag × Bytes × Value)) (h : Good gs) :
    Good (ops.foldl (fun g o => addAttr o.1 o.2.1 o.2.2 g) gs) := by
  induction ops generalizing gs with
  | nil => exact h
  | cons o r ih => exact ih _ (good_add _ _ _ _ h)

/-- an operation group made by inserting pairs of which the first two are charset and natural language -/
theorem good_of_head {c l : Bytes} (hc : A.ATTRIBUTES_CHARSET = c) (hl : A.ATTRIBUTES_NATURAL_LANGUAGE = l)
    (x y : Value) (rest : List (Bytes × Value)) (ls : List Group) :
    Good (⟨.OperationAttributes, sinsertAll ((c, x) :: (l, y) :: rest) []⟩ :: ls) := by
  subst hc hl
  rw [sinsertAll_cons, sinsertAll_cons]
  refine ⟨_, _, rfl, rfl, sget_isSome_sinsertAll ?_, sget_isSome_sinsertAll ?_⟩
  · exact sget_isSome_sinsert _ _ _ _ (congrArg Option.isSome (sget_sinsert_self _ _ _))
  · exact congrArg Option.isSome (sget_sinsert_self _ _ _)

theorem good_newRequest (ver : UInt16) (op : Operation) (uri : Option Uri) : Good (newRequest ver op uri).groups := by
  rw [Builders.newRequest_eq]
  exact good_of_head rfl rfl _ _ _ _

theorem good_newResponse (ver : UInt16) (st : StatusCode) (id : UInt32) : Good (newResponse ver st id).groups := by
  rw [Builders.newResponse_eq]
  exact good_of_head rfl rfl _ _ _ _

/-- every operation builder yields a message satisfying the premise: by C10 it is the declared request,
    whose operation attributes are listed from charset and natural language on -/
theorem good_buildOp (k : OpKind) (uri : Uri) (jobId : UInt32) (payload : Bytes) (calls : List Call) :
    Good (buildOp k uri jobId payload calls).groups := by
  rw [Builders.buildOp_eq_request C10.names_pin C10.op_codes_pin]
  exact good_of_head C10.names_pin.1 C10.names_pin.2.1 _ _ _ _

/-- Headline: for every builder result followed by any additions, under every listing of its groups,
    the wire starts: header, 0x01, attributes-charset, attributes-natural-language, then printer-uri /
    job-uri / job-id when present. -/
theorem built_then_added_in_order (k : OpKind) (uri : Uri) (jobId : UInt32) (payload : Bytes) (calls : List Call)
    (ops : List (DelimiterTag × Bytes × Value)) (h : Header) :
    ∃ g ls vc vl tail,
      ops.foldl (fun g o => addAttr o.1 o.2.1 o.2.2 g) (buildOp k uri jobId payload calls).groups = g :: ls ∧
      encodeMsg h (g :: ls) =
        encHeader h ++ (0x01 :: (encAttr A.ATTRIBUTES_CHARSET vc ++ (encAttr A.ATTRIBUTES_NATURAL_LANGUAGE vl ++
          (opt A.PRINTER_URI g.attrs ++ (opt A.JOB_URI g.attrs ++ (opt A.JOB_ID g.attrs ++ tail)))))) := by
  obtain ⟨g, ls, hg, hop, hc, hl⟩ := good_adds _ ops (good_buildOp k uri jobId payload calls)
  obtain ⟨vc, hvc⟩ := Option.isSome_iff_exists.mp hc
  obtain ⟨vl, hvl⟩ := Option.isSome_iff_exists.mp hl
  obtain ⟨tail, ht⟩ := charset_language_first h g ls hop vc vl hvc hvl
  exact ⟨g, ls, vc, vl, tail, hg, ht⟩

/-- non-vacuity: a Send-Document request has charset, language, printer-uri and job-id -/
example : Good (sendDocument ⟨some [0x69,0x70,0x70], some [0x68], [0x2f], none, none⟩ 7 [] none true).groups :=
  good_buildOp .sendDocument _ 7 [] []

end Ipp.Props.C09
