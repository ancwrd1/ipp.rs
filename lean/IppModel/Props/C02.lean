/-
  C02 — parsers are total on arbitrary bytes: no panic, no hang.
  `Outcome.panic` marks every place where the Rust would panic (`bytes::Buf::get_*`, slicing, `advance`
  on a short buffer; a `read_exact` that returned fewer bytes than asked); `Outcome.outOfFuel` marks a
  loop that has not finished within its fuel.  The theorems say neither is ever the result – for every
  tag, every body, every byte string, every scripted source.  Termination of each model function is Lean's
  acceptance of its (structural) definition.  Stack depth of the *Rust* traversals is a runtime matter the
  model cannot exhibit: see `depth_unbounded` and known finding K2.
-/
import IppModel.Props.C02b
namespace Ipp.Props.C02
open Ipp.Gen

/-- The stand-alone value decoder returns a value or an error value for all 256 tags and all bodies. -/
theorem decode_total (tag : UInt8) (body : Bytes) :
    decodeValue tag body ≠ .panic ∧ decodeValue tag body ≠ .outOfFuel :=
  (decodeValue_sat tag body).ne

/-- …and every error it returns is `InvalidData`. -/
theorem decode_errors (tag : UInt8) (body : Bytes) (e : Err) (h : decodeValue tag body = .err e) :
    e = .io .invalidData := by
  have := decodeValue_sat tag body
  rwa [h] at this

/-- The blocking parser on any fully available byte string. -/
theorem parse_total (bs : Bytes) : parseFlat bs ≠ .panic ∧ parseFlat bs ≠ .outOfFuel :=
  (parseWith_safe flatRd_laws syncLoop (bs.length + 1) bs (Nat.lt_succ_self _)).ne

/-- The blocking parser over every scripted source (any chunking, interruptions, failures). -/
theorem parse_sync_total (src : Source) : parseSync src ≠ .panic ∧ parseSync src ≠ .outOfFuel :=
  (parseWith_safe stdRd_laws syncLoop (Source.size src + 1) src (Nat.lt_succ_self _)).ne

/-- The async parser over every scripted source (any chunking, not-ready results, failures). -/
theorem parse_async_total (src : Source) : parseAsync src ≠ .panic ∧ parseAsync src ≠ .outOfFuel :=
  (parseWith_safe futRd_laws asyncLoop (Source.size src + 1) src (Nat.lt_succ_self _)).ne

/-- non-vacuity: inputs on which the guards actually fire -/
example : decodeValue 0x21 [0, 0] = .err (.io .invalidData) := by rfl
set_option maxRecDepth 8192 in
example : decodeValue 0x35 [0, 1, 0x78, 0, 2, 1] = .err (.io .invalidData) := by rfl
example : decodeValue 0x21 [0, 0, 0, 5] = .ok (.int .integer 5) := by rfl

end Ipp.Props.C02
