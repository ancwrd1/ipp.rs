/-
  C06 — parsing consumes exactly the message; fragmentation never changes it.
-/
import IppModel.Lemmas.Streams
namespace Ipp.Props.C06
open Ipp.Gen

/-- Blocking parser: however the source fragments its reads – down to one byte at a time, with
    `Interrupted` results (and spurious not-ready markers) anywhere – the outcome is the outcome on the
    unfragmented bytes, and what is left in the reader is exactly what is left of the bytes. -/
theorem fragmentation_blocking (src : Source) (h : noFault src = true) :
    (parseSync src).mapRest Source.flat = parseFlat (Source.flat src) := by
  rw [parseSync_eq]
  exact parseG_flat true src (.std h)

/-- Async parser: the same, for every chunking and every pattern of not-ready results. -/
theorem fragmentation_async (src : Source) (h : noFault src = true) (hi : noIntr src = true) :
    (parseAsync src).mapRest Source.flat = parseFlat (Source.flat src) := by
  rw [parseAsync_eq]
  exact parseG_flat false src (.fut h hi)

/-- Never reads ahead: an accepted input splits into the consumed part, which ends with the
    end-of-attributes tag, and the untouched rest; the result does not depend on the rest at all, so any
    payload – also one that looks like IPP – comes back unmodified. -/
theorem exact_consumption (bs : Bytes) (r : Header × List Group) (rest : Bytes) (h : parseFlat bs = .ok (r, rest)) :
    ∃ pre, bs = pre ++ rest ∧ pre.getLast? = some 0x03 ∧ ∀ rest', parseFlat (pre ++ rest') = .ok (r, rest') := by
  obtain ⟨pre, h1, h2, hc⟩ := parseFlat_consumes bs r rest h
  exact ⟨pre, h1, h2, fun rest' => (hc _ (by simp only [List.length_append]; omega)).1 .unexpectedEof rest'⟩

/-- non-vacuity: a source with one-byte chunks, interruptions and a payload that looks like a tag -/
example : noFault [.data [1], .interrupted, .data [1, 0, 2], .pending, .data [0, 0, 0, 1, 3], .data [3]] = true := by decide

end Ipp.Props.C06
