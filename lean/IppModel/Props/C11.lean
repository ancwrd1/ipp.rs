/-
  C11 — the HTTP clients put the exact request on the wire and return the exact response.
  PARTIAL: everything below `send`'s own lines (reqwest / ureq / hyper, de-framing, sockets, timers) is a
  parameter; the theorems are about the decision logic of Model/Http.lean composed with the codec theorems
  (C01, C04, C07).  Timeouts and concurrency are observed by the harness, not proved.
-/
import IppModel.Lemmas.Base64
import IppModel.Props.C01
import IppModel.Props.C07
namespace Ipp.Props.C11
open Ipp.Spec

/-- exactly one request: a POST to the mapped path and query with Content-Type application/ipp -/
theorem one_post (calls : List CfgCall) (pq : Bytes) (h : Header) (L : List Group) (p : Bytes) :
    ∃ r, wireRequest calls pq h L p = [r] ∧ r.method = postLit ∧ r.target = pq ∧ r.contentType = applicationIpp :=
  ⟨_, rfl, rfl, rfl, rfl⟩

/-- the body decodes to exactly the request and its payload bytes -/
theorem body_decodes_to_request (calls : List CfgCall) (pq : Bytes) (h : Header) (gs L : List Group) (p : Bytes)
    (hwf : wfMsg gs = true) (hL : ListingOf gs L) :
    ∀ r ∈ wireRequest calls pq h L p, parseFlat r.body = .ok ((h, gs), p) :=
  fun _ hr => List.mem_singleton.mp hr ▸ C01.roundtrip h gs L p hwf hL

/-- every configured custom header is on the wire with the value given last for that name -/
theorem custom_header_last_wins (calls : List CfgCall) (k v : Bytes) :
    sget k (cfgHeaders (calls ++ [.header k v])) = some v := by
  simp [cfgHeaders, List.foldl_append, sget_sinsert]

/-- the Basic credentials decode to exactly `user:password` (RFC 7617) -/
theorem basic_credentials (user pass : Bytes) :
    ∃ enc, authValue user pass = basicLit ++ enc ∧ b64Decode enc = some (user ++ (0x3a :: pass)) :=
  ⟨_, rfl, b64_roundtrip _⟩

theorem basic_header_on_wire (calls : List CfgCall) (user pass : Bytes) :
    sget authorizationLit (cfgHeaders (calls ++ [.basicAuth user pass])) = some (authValue user pass) := by
  simp [cfgHeaders, List.foldl_append, sget_sinsert]

/-- an HTTP error status (4xx, 5xx) yields an error, never a success -/
theorem error_status_is_error (t : Option Nat) (r : ServerReply) (hs : 400 ≤ r.status) :
    sendResult t r = .status r.status ∨ sendResult t r = .other := by
  unfold sendResult
  by_cases h : timedOut t r = true
  · right; simp [h]
  · left; simp [h, hs]

/-- an exceeded request timeout yields an error -/
theorem timeout_is_error (t s : Nat) (r : ServerReply) (hs : r.stallMs = some s) (hlt : t < s) :
    sendResult (some t) r = .other := by
  simp [sendResult, timedOut, hs, hlt]

theorem timedOut_none (t : Option Nat) (st : Nat) (b : Bytes) (c : Option Nat) : timedOut t ⟨st, b, c, none⟩ = false := by
  cases t <;> rfl

/-- the value returned is exactly the server's response – header, attributes, trailing data – for every
    well-formed response, whatever the framing or fragmentation (which only determine *that* these bytes arrive) -/
theorem exact_response (t : Option Nat) (st : Nat) (w : WMsg) (p : Bytes) (hw : wfWire w = true) (hst : st < 400) :
    sendResult t ⟨st, ser w ++ p, none, none⟩ = .ok (interp w) p := by
  simp only [sendResult, timedOut_none, Bool.false_eq_true, Nat.not_le.mpr hst, if_false, delivered,
    C04.parse_wellformed w p hw]

/-- a connection cut before the end of the attributes yields an error, never a success -/
theorem cut_is_error (t : Option Nat) (st : Nat) (w : WMsg) (p : Bytes) (k : Nat) (hw : wfWire w = true)
    (hk : k < (ser w).length) :
    ∀ x rest, sendResult t ⟨st, ser w ++ p, some k, none⟩ ≠ .ok x rest := by
  intro x rest
  have hp := C07.prefix_rejected (ser w ++ p) (interp w) p (C04.parse_wellformed w p hw) k
    (by rw [List.length_append, Nat.add_sub_cancel]; exact hk)
  simp only [sendResult, timedOut_none, Bool.false_eq_true, if_false, delivered, hp]
  split <;> nofun

/-- `send` keeps no state: the results of any collection of sends through one client are those of each alone -/
theorem sends_are_independent (t : Option Nat) (rs : List ServerReply) :
    rs.map (sendResult t) = rs.map (fun r => sendResult t r) := rfl

end Ipp.Props.C11
