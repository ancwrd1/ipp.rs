/-
  C17 — the printer readiness check never reports a stopped or blocked printer as ready.
-/
import IppModel.Model.Ready
import IppModel.Spec.Names
import IppModel.Props.C19
namespace Ipp.Props.C17
open Ipp.Gen Ipp.Spec

/-- the blocking reasons the property lists -/
def blocking : List Bytes :=
  [N.media_jam, N.toner_empty, N.spool_area_full, N.cover_open, N.door_open, N.input_tray_missing,
   N.output_tray_missing, N.marker_supply_empty, N.paused, N.shutdown]

/-- the translated `ERROR_STATES` holds exactly the ten blocking words (as a set: the order in the source is irrelevant) -/
theorem error_states_pin : (Gen.errorStates.all fun k => blocking.contains k) = true ∧ (blocking.all fun k => Gen.errorStates.contains k) = true := by
  decide

theorem error_states_contains (k : Bytes) : Gen.errorStates.contains k = blocking.contains k :=
  Bool.eq_iff_iff.mpr
    ⟨fun h => List.all_eq_true.mp error_states_pin.1 k (List.contains_iff_mem.mp h),
     fun h => List.all_eq_true.mp error_states_pin.2 k (List.contains_iff_mem.mp h)⟩

theorem names_pin : Gen.readyStateAttr = N.printer_state ∧ Gen.readyReasonsAttr = N.printer_state_reasons ∧
    Gen.readyStoppedState.code = 5 ∧ Gen.readyGroups = [.PrinterAttributes, .PrinterAttributes] := by decide

/-- the keywords a printer-state-reasons value carries: itself if it is a keyword, the keyword elements of
    a set, the keyword member values of a collection; nothing otherwise -/
def keywordsOf : Value → List Bytes
  | .str .keyword s => [s]
  | .array vs => vs.filterMap asKeyword
  | .coll ms => (ms.map (·.2)).filterMap asKeyword
  | _ => []

/-- printer-state of the first printer-attributes group is the enum value 5 (stopped) -/
def stopped (gs : List Group) : Bool :=
  match printerAttr N.printer_state gs with
  | some (.int .enum v) => v == 5
  | _ => false

def blockedBy (gs : List Group) : Bool :=
  match printerAttr N.printer_state_reasons gs with
  | some r => (keywordsOf r).any fun k => blocking.contains k
  | none => false

theorem fromCode_stopped (n : Nat) : PrinterState.fromCode n = some .Stopped ↔ n = 5 := by
  refine ⟨fun h => ?_, fun h => h ▸ rfl⟩
  have := List.find?_some h
  simp only [PrinterState.code, beq_iff_eq] at this
  exact this.symm

theorem printerStateOf_stopped (v : UInt32) : printerStateOf v = some .Stopped ↔ v = 5 := by
  unfold printerStateOf
  split
  · exact (fromCode_stopped _).trans (UInt32.toNat_inj (b := 5))
  · exact ⟨nofun, fun e => absurd (e ▸ by decide) ‹¬v.toNat < 2147483648›⟩

/-- the iterator visits exactly the values `keywordsOf` looks at -/
theorem keywords_iterAll (r : Value) : (iterAll r).filterMap asKeyword = keywordsOf r := by
  rw [C19.traversal]
  cases r with
  | str k s => cases k <;> rfl
  | _ => rfl

theorem state_stopped (gs : List Group) :
    decide (((printerAttr N.printer_state gs).bind asEnum).bind printerStateOf = some readyStoppedState) = stopped gs := by
  unfold stopped
  cases printerAttr N.printer_state gs with
  | none => rfl
  | some x =>
    cases x with
    | int k v =>
      cases k
      · rfl
      · exact decide_eq_decide.mpr (printerStateOf_stopped v)
    | _ => rfl

/-- Complete characterisation of the readiness helper. -/
theorem ready_iff (h : Header) (gs : List Group) :
    isPrinterReady h gs =
      if isSuccess (statusOf h.opOrStatus.toNat) = false then .error (statusOf h.opOrStatus.toNat)
      else .ok (!stopped gs && !blockedBy gs) := by
  simp only [isPrinterReady, names_pin.1, names_pin.2.1]
  cases isSuccess (statusOf h.opOrStatus.toNat)
  · rfl
  · cases hst : stopped gs
    · rw [if_neg (of_decide_eq_false ((state_stopped gs).trans hst)), blockedBy]
      cases printerAttr N.printer_state_reasons gs with
      | none => rfl
      | some r =>
        simp only [keywords_iterAll, error_states_contains]
        cases (keywordsOf r).any fun k => blocking.contains k <;> rfl
    · rw [if_pos (of_decide_eq_true ((state_stopped gs).trans hst))]
      rfl

/-- an error carrying the IPP status exactly when the status is not successful -/
theorem error_iff_not_success (h : Header) (gs : List Group) :
    (∃ s, isPrinterReady h gs = .error s) ↔ isSuccess (statusOf h.opOrStatus.toNat) = false := by
  rw [ready_iff]
  cases isSuccess (statusOf h.opOrStatus.toNat) <;> simp

/-- a stopped printer is never ready -/
theorem stopped_not_ready (h : Header) (gs : List Group) (hs : stopped gs = true) : isPrinterReady h gs ≠ .ok true := by
  rw [ready_iff, hs]
  split <;> simp

/-- a printer with any blocking reason – single keyword or anywhere in a set – is never ready -/
theorem blocked_not_ready (h : Header) (gs : List Group) (hb : blockedBy gs = true) : isPrinterReady h gs ≠ .ok true := by
  rw [ready_iff, hb]
  split <;> simp

/-- an idle or processing printer with successful status whose reasons are absent or contain no blocking word is ready -/
theorem otherwise_ready (h : Header) (gs : List Group) (hok : isSuccess (statusOf h.opOrStatus.toNat) = true)
    (hs : stopped gs = false) (hb : blockedBy gs = false) : isPrinterReady h gs = .ok true := by
  rw [ready_iff, hok, hs, hb]
  simp

end Ipp.Props.C17
