/-
  C14 — ipp/ipps targets map to the right http/https URL and default port.
  The model agrees with the implementation (correspondence) and both contradict the property at one point:
  a port-less `ipps` target gets port 443 instead of 631 (known finding K1, pinned by the repository's own
  test `test_ipps_uri_no_port`).  The full statement is `transportUrl u = transportUrlSpec u`; it is proved
  everywhere except that point, and the counterexample is proved too.
-/
import IppModel.Spec.Transport
namespace Ipp.Props.C14
open Ipp.Gen Ipp.Spec

/-- the translated arms of `ipp_uri_to_string` -/
theorem arms_pin : Gen.transportArms = [(N.ipps, N.https, 443), (N.ipp, N.http, 631)] := by decide

/-- `natToDec 631 = "631"`, `natToDec 443 = "443"` -/
theorem dec_631 : natToDec 631 = port631 := by decide

/-- scheme ipp: http, explicit port kept, 631 otherwise; user-info, host, path and query unchanged -/
theorem ipp_maps_to_http (raw : Bytes) (path : Bytes) (q pq : Option Bytes) :
    transportUrl ⟨some N.ipp, some raw, path, q, pq⟩ =
      N.http ++ ([cColon, cSlash, cSlash] ++ ((if (portOf raw).isSome then raw else raw ++ (cColon :: port631)) ++ pq.getD [])) := by
  have h1 : (N.ipps == N.ipp) = false := by decide
  have h2 : (N.ipp == N.ipp) = true := by decide
  simp only [transportUrl, arms_pin, List.find?, h1, h2, dec_631]

/-- scheme ipps: https, explicit port kept, 443 otherwise -/
theorem ipps_maps_to_https (raw path : Bytes) (q pq : Option Bytes) :
    transportUrl ⟨some N.ipps, some raw, path, q, pq⟩ =
      N.https ++ ([cColon, cSlash, cSlash] ++
        ((if (portOf raw).isSome then raw else raw ++ (cColon :: [0x34, 0x34, 0x33])) ++ pq.getD [])) := by
  have h1 : (N.ipps == N.ipps) = true := by decide
  simp only [transportUrl, arms_pin, List.find?, h1, show natToDec 443 = [0x34, 0x34, 0x33] by decide]

/-- scheme ipps with an explicit port: https, port kept -/
theorem ipps_with_port (raw : Bytes) (path : Bytes) (q pq : Option Bytes) (hp : (portOf raw).isSome) :
    transportUrl ⟨some N.ipps, some raw, path, q, pq⟩ = N.https ++ ([cColon, cSlash, cSlash] ++ (raw ++ pq.getD [])) := by
  rw [ipps_maps_to_https, if_pos hp]

/-- targets that already use http or https (or anything else) are used as they are -/
theorem other_schemes_unchanged (u : Uri) (h1 : u.scheme ≠ some N.ipp) (h2 : u.scheme ≠ some N.ipps) :
    transportUrl u = renderUri u := by
  cases hs : u.scheme with
  | none => simp only [transportUrl, hs]
  | some s =>
    have e1 : (N.ipp == s) = false := beq_false_of_ne fun e => h1 (e ▸ hs)
    have e2 : (N.ipps == s) = false := beq_false_of_ne fun e => h2 (e ▸ hs)
    simp only [transportUrl, hs, arms_pin, List.find?, e1, e2]

/-- PARTIAL (everything but port-less ipps): the URL contacted is the one the RFCs prescribe. -/
theorem transport_partial (u : Uri)
    (h : ¬ (u.scheme = some N.ipps ∧ ∃ raw, u.authority = some raw ∧ portOf raw = none)) :
    transportUrl u = transportUrlSpec u := by
  obtain ⟨scheme, authority, path, query, pq⟩ := u
  cases scheme with
  | none => rfl
  | some s =>
    cases authority with
    | none =>
      simp only [transportUrl]
      split <;> rfl
    | some raw =>
      by_cases hs1 : s = N.ipp
      · subst hs1
        -- at this scheme the specification unfolds to the right side of `ipp_maps_to_http`
        exact ipp_maps_to_http ..
      · by_cases hs2 : s = N.ipps
        · subst hs2
          have hp : (portOf raw).isSome := Option.isSome_iff_ne_none.mpr fun hpo => h ⟨rfl, raw, rfl, hpo⟩
          rw [ipps_with_port _ _ _ _ hp]
          simp [transportUrlSpec, hp, show N.ipps ≠ N.ipp by decide]
        · rw [other_schemes_unchanged _ (hs1 ∘ Option.some.inj) (hs2 ∘ Option.some.inj)]
          simp [transportUrlSpec, hs1, hs2]

/-- K1: the property is false of the model (and of the code) for a port-less ipps target. -/
theorem portless_ipps_counterexample :
    transportUrl ⟨some N.ipps, some [0x68], [0x2f], none, some [0x2f]⟩ ≠ transportUrlSpec ⟨some N.ipps, some [0x68], [0x2f], none, some [0x2f]⟩ := by
  decide

/-- …and exactly how: 443 is appended where 631 is prescribed -/
theorem portless_ipps_gets_443 (raw : Bytes) (path : Bytes) (q pq : Option Bytes) (hp : portOf raw = none) :
    transportUrl ⟨some N.ipps, some raw, path, q, pq⟩ =
      N.https ++ ([cColon, cSlash, cSlash] ++ ((raw ++ (cColon :: [0x34, 0x34, 0x33])) ++ pq.getD [])) := by
  rw [ipps_maps_to_https, hp]; rfl

/-- a bracketed IPv6 literal without port gets the default port outside the brackets; user-info is not mistaken for a port -/
example : transportUrl ⟨some N.ipp, some [0x5b, 0x3a, 0x3a, 0x31, 0x5d], [0x2f], none, some [0x2f]⟩ =
    N.http ++ [0x3a, 0x2f, 0x2f, 0x5b, 0x3a, 0x3a, 0x31, 0x5d, 0x3a, 0x36, 0x33, 0x31, 0x2f] := by decide
example : portOf [0x75, 0x3a, 0x70, 0x40, 0x68] = none := by decide   -- "u:p@h"

end Ipp.Props.C14
