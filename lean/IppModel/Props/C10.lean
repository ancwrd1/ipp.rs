/-
  C10 — operation builders produce exactly the request their arguments describe.
  `buildOp` is the model of `IppOperationBuilder::<op>(…)<calls>.build().into_ipp_request()`;
  `Spec.request` / `Spec.summary` are the declarative description (Spec/Requests.lean).
-/
import IppModel.Lemmas.Builders
namespace Ipp.Props.C10
open Ipp.Gen Ipp.Spec

/-- the library's operation codes for the ten operations are the registry's -/
theorem op_codes_pin :
    Operation.PrintJob.code = opCode .printJob ∧ Operation.CreateJob.code = opCode .createJob ∧
    Operation.SendDocument.code = opCode .sendDocument ∧ Operation.CancelJob.code = opCode .cancelJob ∧
    Operation.GetJobAttributes.code = opCode .getJobAttributes ∧ Operation.GetJobs.code = opCode .getJobs ∧
    Operation.GetPrinterAttributes.code = opCode .getPrinterAttributes ∧ Operation.PurgeJobs.code = opCode .purgeJobs ∧
    Operation.CupsGetPrinters.code = opCode .cupsGetPrinters ∧ Operation.CupsDeletePrinter.code = opCode .cupsDeletePrinter := by
  decide

/-- the attribute-name constants used by the builders are the RFC's names -/
theorem names_pin :
    A.ATTRIBUTES_CHARSET = N.attributes_charset ∧ A.ATTRIBUTES_NATURAL_LANGUAGE = N.attributes_natural_language ∧
    A.PRINTER_URI = N.printer_uri ∧ A.REQUESTING_USER_NAME = N.requesting_user_name ∧ A.JOB_NAME = N.job_name ∧
    A.JOB_ID = N.job_id ∧ A.LAST_DOCUMENT = N.last_document ∧ A.REQUESTED_ATTRIBUTES = N.requested_attributes ∧
    utf8Lit = N.utf8 ∧ enLit = N.en :=
  ⟨rfl, rfl, rfl, rfl, rfl, rfl, rfl, rfl, rfl, rfl⟩

/-- calling a single-valued setter again replaces the earlier value; accumulating setters keep everything -/
theorem calls_fold_to_summary (calls : List Call) :
    let b := BState.run calls
    let sm := summary calls
    b.user = sm.user ∧ b.title = sm.title ∧ b.attrs = sm.jobAttrs ∧ b.isLast = sm.last ∧ b.requested = sm.requested :=
  Builders.run_eq_summary calls

/-- Every builder yields exactly the request its arguments describe. -/
theorem build_eq_spec (k : OpKind) (uri : Uri) (jobId : UInt32) (payload : Bytes) (calls : List Call) :
    buildOp k uri jobId (if hasPayload k then payload else []) calls = request k uri jobId payload (summary calls) :=
  Builders.build_eq_spec names_pin op_codes_pin k uri jobId payload calls

/-- the raw request constructor: charset, language, canonical printer-uri when a target is given, nothing else -/
theorem new_request_spec (ver : UInt16) (op : Operation) (uri : Option Uri) :
    (newRequest ver op uri).header = ⟨ver, UInt16.ofNat op.code, 1⟩ ∧
    (newRequest ver op uri).groups =
      [⟨.OperationAttributes, sinsertAll
        ([(N.attributes_charset, .str .charset N.utf8), (N.attributes_natural_language, .str .naturalLanguage N.en)] ++
         (match uri with
          | some u => [(N.printer_uri, .str .uri (renderUri (canonUri u)))]
          | none => [])) []⟩] ∧
    (newRequest ver op uri).payload = [] :=
  Builders.new_request_spec names_pin ver op uri

/-- the raw response constructor -/
theorem new_response_spec (ver : UInt16) (st : StatusCode) (id : UInt32) :
    (newResponse ver st id).header = ⟨ver, UInt16.ofNat st.code, id⟩ ∧
    (newResponse ver st id).groups =
      [⟨.OperationAttributes, sinsertAll
        [(N.attributes_charset, .str .charset N.utf8), (N.attributes_natural_language, .str .naturalLanguage N.en)] []⟩] ∧
    (newResponse ver st id).payload = [] :=
  Builders.new_response_spec names_pin ver st id

end Ipp.Props.C10
