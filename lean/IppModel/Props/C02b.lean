/-
  C02, the part about depth — the formal content of known finding K2: the nesting depth of what the parser returns is
  unbounded in the input (16 bytes per level), which is what the recursive `Drop` / `Clone` / `Display` of
  the Rust value type cannot survive (a corollary of the refinement theorem, C04); and the converse, that depth
  is at most linear in the bytes consumed (the potential argument of Lemmas/DepthLin.lean).
-/
import IppModel.Props.C04
import IppModel.Lemmas.DepthLin
import IppModel.Lemmas.Scripted
namespace Ipp.Props.C02
open Ipp.Gen Ipp.Spec

/-- n nested collections around one integer -/
def nest : Nat → WVal
  | 0 => .plain 0x21 [0, 0, 0, 1]
  | n + 1 => .coll [([0x6d], [nest n])]

def nestMsg (n : Nat) : WMsg := ⟨0x0101, 0x0002, 1, [⟨0x01, [⟨[0x63], [nest n]⟩]⟩]⟩

theorem nest_wf (n : Nat) (c : Bool) : wfV c (nest n) = true := by
  induction n generalizing c with
  | zero => cases c <;> decide
  | succ k ih => simp [nest, wfV, wfMs, wfVs, ih]

theorem nestMsg_wf (n : Nat) : wfWire (nestMsg n) = true := by
  simp [wfWire, nestMsg, wfGroups, wfGroup, wfAttrs, wfAttr, wfVs, nest_wf, delimOf]

theorem lossy_m : lossy [0x6d] = [0x6d] := by decide

theorem nest_depth (n : Nat) : depth (interpV (nest n)) = n + 1 := by
  induction n with
  | zero => rfl
  | succ k ih =>
    simp only [nest, interpV, interpMs, interpVs, listOrValue, lossy_m, sinsert, depth, depthM, ih]
    omega

/-- For every n there is an input – a well-formed message – on which the parser succeeds and returns a
    value nested n + 1 levels deep. -/
theorem depth_unbounded (n : Nat) :
    ∃ bs g v, parseFlat bs = .ok ((⟨0x0101, 0x0002, 1⟩, [g]), []) ∧ g.attrs = [([0x63], v)] ∧ depth v = n + 1 := by
  refine ⟨ser (nestMsg n), ⟨.OperationAttributes, [([0x63], interpV (nest n))]⟩, interpV (nest n), ?_, rfl, nest_depth n⟩
  have h := C04.parse_wellformed (nestMsg n) [] (nestMsg_wf n)
  rw [List.append_nil] at h
  -- `interp (nestMsg n)` evaluates to the result claimed
  exact h

/-- the input grows by 16 bytes per level -/
theorem nest_size (n : Nat) (name : Bytes) : (toksBytes (toksV name (nest n))).length = 16 * n + 9 + name.length := by
  induction n generalizing name with
  | zero =>
    simp only [nest, toksV, toksBytes, tokBytes, be16, List.append_nil, List.length_cons, List.length_append,
      List.length_nil]
    omega
  | succ k ih =>
    simp only [nest, toksV, toksMs, toksVs, toksBytes, toksBytes_append, tokBytes, be16, List.append_nil,
      List.length_cons, List.length_append, List.length_nil, ih]
    omega

/-- On EVERY input the parser accepts (well-formed or not) the SUM of the depths of all returned values, plus the
    8 header bytes, fits in the bytes consumed. -/
theorem depth_sum_linear (bs : Bytes) (h : Header) (gs : List Group) (rest : Bytes)
    (hp : parseFlat bs = .ok ((h, gs), rest)) : sumG gs + 8 + rest.length ≤ bs.length := by
  have := parseWith_depth_sum flatRd_laws syncLoop _ bs (Nat.lt_succ_self _)
  rwa [← parseFlat, hp] at this

/-- Hence the converse bound: on every input the parser accepts, the nesting depth of every value
    it returns is at most the number of bytes it consumed – depth is linear in the input, never amplified.
    Together with `depth_unbounded` / `nest_size` this pins K2 exactly: depth n needs an input of Θ(n) bytes. -/
theorem depth_linear (bs : Bytes) (h : Header) (gs : List Group) (rest : Bytes)
    (hp : parseFlat bs = .ok ((h, gs), rest)) :
    ∀ g ∈ gs, ∀ p ∈ g.attrs, depth p.2 ≤ bs.length - rest.length :=
  parseWith_depth flatRd_laws syncLoop _ bs (Nat.lt_succ_self _) hp

/-- …and through the stream readers: however a fault-free source fragments the bytes (short reads, `Interrupted`,
    not-ready), what the blocking parser returns is no deeper than the bytes it took from the source. -/
theorem depth_linear_blocking (src : Source) (hf : noFault src = true) (h : Header) (gs : List Group) (rest : Source)
    (hp : parseSync src = .ok ((h, gs), rest)) :
    ∀ g ∈ gs, ∀ p ∈ g.attrs, depth p.2 ≤ (Source.flat src).length - (Source.flat rest).length := by
  -- `hf` is not needed: the bound holds through any reader that obeys the laws, faults or not
  simp only [← size_eq_flat_length]
  exact parseWith_depth stdRd_laws syncLoop _ src (Nat.lt_succ_self _) hp

/-- the same for the async parser (no `Interrupted` in the script, which the async reader would return as an error) -/
theorem depth_linear_async (src : Source) (hf : noFault src = true) (hi : noIntr src = true) (h : Header) (gs : List Group)
    (rest : Source) (hp : parseAsync src = .ok ((h, gs), rest)) :
    ∀ g ∈ gs, ∀ p ∈ g.attrs, depth p.2 ≤ (Source.flat src).length - (Source.flat rest).length := by
  -- neither `hf` nor `hi` is needed, as above
  simp only [← size_eq_flat_length]
  exact parseWith_depth futRd_laws asyncLoop _ src (Nat.lt_succ_self _) hp

/-- non-vacuity: the hypothesis is met by the nested messages above, where the bound is within a factor 16 -/
example : ∃ bs h gs rest, parseFlat bs = .ok ((h, gs), rest) ∧ ∃ g ∈ gs, ∃ p ∈ g.attrs, depth p.2 = 4 := by
  obtain ⟨bs, g, v, hp, ha, hd⟩ := depth_unbounded 3
  exact ⟨bs, _, _, _, hp, g, by simp, ([0x63], v), by simp [ha], hd⟩

end Ipp.Props.C02
