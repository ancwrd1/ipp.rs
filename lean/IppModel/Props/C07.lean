/-
  C07 — truncated or failing streams are never accepted as complete messages.
-/
import IppModel.Lemmas.Streams
namespace Ipp.Props.C07
open Ipp.Gen

/-- Whatever input the parser accepts (well-formed or not): every proper prefix of the consumed part is
    rejected with `UnexpectedEof`. -/
theorem prefix_rejected (bs : Bytes) (r : Header × List Group) (rest : Bytes) (h : parseFlat bs = .ok (r, rest))
    (k : Nat) (hk : k < bs.length - rest.length) :
    parseFlat (bs.take k) = .err (.io .unexpectedEof) :=
  parseCut_prefix bs r rest h k hk .unexpectedEof _ (by simp only [List.length_take]; omega)

/-- the same through both parsers over any fragmentation of the prefix -/
theorem prefix_rejected_streams (bs : Bytes) (r : Header × List Group) (rest : Bytes) (h : parseFlat bs = .ok (r, rest))
    (src : Source) (hf : noFault src = true) (hk : (Source.flat src).length < bs.length - rest.length)
    (hp : Source.flat src = bs.take (Source.flat src).length) :
    parseSync src = .err (.io .unexpectedEof) ∧ (noIntr src = true → parseAsync src = .err (.io .unexpectedEof)) := by
  have key := fun retry hc => parseG_cut retry bs r rest h src [] .unexpectedEof (fun _ => rfl) hc hk hp
  simp only [List.append_nil] at key
  rw [parseSync_eq, parseAsync_eq]
  exact ⟨key true (.std hf), fun hi => key false (.fut hf hi)⟩

/-- If the source fails with an I/O error before the end-of-attributes tag has been delivered, parsing
    returns an error carrying that kind – for every fragmentation before the failure and whatever follows it.
    (`Interrupted` is excluded for the blocking reader: std's `read_exact` retries that kind by design.) -/
theorem fault_propagates (bs : Bytes) (r : Header × List Group) (rest : Bytes) (h : parseFlat bs = .ok (r, rest))
    (src1 src2 : Source) (e : IoKind) (hf : noFault src1 = true)
    (hk : (Source.flat src1).length < bs.length - rest.length)
    (hp : Source.flat src1 = bs.take (Source.flat src1).length) :
    (e ≠ .interrupted → parseSync (src1 ++ .fail e :: src2) = .err (.io e)) ∧
    (noIntr src1 = true → parseAsync (src1 ++ .fail e :: src2) = .err (.io e)) := by
  have key := fun retry hc => parseG_cut retry bs r rest h src1 (.fail e :: src2) e (fun _ => rfl) hc hk hp
  rw [parseSync_eq, parseAsync_eq]
  exact ⟨fun _ => key true (.std hf), fun hi => key false (.fut hf hi)⟩

end Ipp.Props.C07
