/-
  C13 — printer-uri never leaks credentials or query; host, port and path are kept.
  Authority level: `hostOf` / `portOf` are the transcriptions of `http::uri::Authority::{host, port_u16}`
  on the raw authority text (validated against the crate on every run).
-/
import IppModel.Model.Request
import IppModel.Spec.Names
import IppModel.Lemmas.SMap
import IppModel.Lemmas.Uri
namespace Ipp.Props.C13
open Ipp.Gen Ipp.Spec

theorem scheme_pin : Gen.canonScheme = N.ipp := by decide

/-- Whatever the authority is, the host written into printer-uri contains no '@': the user-info part
    (everything up to the last '@') never reaches the result. -/
theorem host_has_no_at (raw : Bytes) : cAt ∉ hostOf raw :=
  UriL.hostOf_not_at raw

/-- the decimal text of a port contains only digits -/
theorem dec_digits (n : Nat) : ∀ b ∈ natToDec n, isDigit b = true :=
  UriL.natToDec_digits n

/-- no '@' and no '?' anywhere in the canonical authority -/
theorem canon_authority_clean (raw : Bytes) : cAt ∉ canonAuthority raw :=
  UriL.canonAuthority_not_at raw

/-- Shape of the canonical URI of a target with an authority: scheme ipp, the same host, `:port` exactly
    when the authority carries a port, the same path, no query. -/
theorem canon_shape (u : Uri) (raw : Bytes) (h : u.authority = some raw) :
    renderUri (canonUri u) =
      N.ipp ++ ([cColon, cSlash, cSlash] ++ (hostOf raw ++
        ((match portOf raw with
          | some p => cColon :: natToDec p
          | none => []) ++ builtPath u.path))) := by
  rw [UriL.canonUri_some u raw h]
  cases hp : portOf raw <;>
    simp only [renderUri, canonAuthority, hp, scheme_pin, Option.getD_some, List.append_assoc, List.append_nil,
      List.nil_append]

/-- "the same path": a target written with a scheme never has an empty `path()`, and then nothing changes;
    only a target in authority form (no scheme, empty path) gets "/" -/
theorem built_path_same (p : Bytes) (h : p ≠ []) : builtPath p = p := by
  simp [builtPath, h]

/-- the fallback branch (builder failure) is taken only for targets without authority, which have no
    user-info to leak -/
theorem fallback_only_without_authority (u : Uri) (h : canonUri u = u) (hq : u.query.isSome ∨ u.scheme ≠ some N.ipp) :
    u.authority = none := by
  cases ha : u.authority with
  | none => rfl
  | some raw =>
    rw [UriL.canonUri_some u raw ha] at h
    rcases hq with hq | hq
    · rw [← h] at hq
      cases hq
    · exact absurd (by rw [← h, scheme_pin]) hq

/-- an authority is bracket-balanced when a host starting with '[' has its ']' (the `http` crate validates this) -/
def bracketOk (raw : Bytes) : Bool :=
  match afterLast cAt raw with
  | x :: r => if x = cLBr then r.contains cRBr else true
  | [] => true

/-- the port text round-trips: `u16::from_str(format!("{}", p)) = p` -/
theorem parse_dec (p : Nat) (h : p ≤ 65535) : parseU16 (natToDec p) = some p :=
  UriL.parseU16_natToDec p h

/-- Canonicalising an already canonical URI changes nothing. -/
theorem idempotent (u : Uri) (hb : ∀ raw, u.authority = some raw → bracketOk raw = true) :
    canonUri (canonUri u) = canonUri u := by
  cases ha : u.authority with
  | none => rw [UriL.canonUri_none u ha, UriL.canonUri_none u ha]
  | some raw =>
    have hbr : ∀ r, afterLast cAt raw = cLBr :: r → cRBr ∈ r := fun r hr =>
      (UriL.contains_iff cRBr r).mp (by simpa only [bracketOk, hr, ↓reduceIte] using hb raw ha)
    rw [UriL.canonUri_some u raw ha, UriL.canonUri_some _ (canonAuthority raw) rfl,
      UriL.canonAuthority_idem raw (UriL.isHost_hostOf raw hbr), UriL.builtPath_idem]

/-- For a structured authority `[userinfo@]host[:port]` whose host is a registered name or IPv4 address
    (no '@', ':' , '[') the host component is recovered exactly, with and without user-info and port. -/
theorem host_of_structured (userinfo : Option Bytes) (host : Bytes) (port : Option Bytes)
    (hh : host ≠ [] ∧ cAt ∉ host ∧ cColon ∉ host ∧ host.head? ≠ some cLBr)
    (hp : ∀ p, port = some p → cAt ∉ p) :
    hostOf ((match userinfo with | some ui => ui ++ [cAt] | none => []) ++ (host ++ (match port with | some p => cColon :: p | none => []))) = host :=
  UriL.hostOf_of_structured userinfo host port (.plain host hh.2.2.2 hh.2.2.1) hh.2.1 hp

/-- …and for a bracketed IPv6 literal -/
theorem host_of_structured_v6 (userinfo : Option Bytes) (inner : Bytes) (port : Option Bytes)
    (hi : cAt ∉ inner ∧ cRBr ∉ inner) (hp : ∀ p, port = some p → cAt ∉ p) :
    hostOf ((match userinfo with | some ui => ui ++ [cAt] | none => []) ++
      ((cLBr :: inner ++ [cRBr]) ++ (match port with | some p => cColon :: p | none => []))) = cLBr :: inner ++ [cRBr] := by
  have hat : cAt ∉ cLBr :: inner ++ [cRBr] := by
    rw [List.mem_append, List.mem_cons, List.mem_singleton, not_or, not_or]
    exact ⟨⟨by decide, hi.1⟩, by decide⟩
  exact UriL.hostOf_of_structured userinfo _ port (.bracket inner hi.2) hat hp

/-- every request constructor writes the canonical form of its target as printer-uri -/
theorem ctor_printer_uri (ver : UInt16) (op : Operation) (u : Uri) :
    ∃ g, (newRequest ver op (some u)).groups = [g] ∧ sget A.PRINTER_URI g.attrs = some (.str .uri (renderUri (canonUri u))) :=
  -- printer-uri is the attribute inserted last
  ⟨_, rfl, sget_sinsert_self _ _ _⟩

end Ipp.Props.C13
