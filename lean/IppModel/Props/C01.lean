/-
  C01 — encode then parse returns the same message.
  Composition of C03 (the encoder writes the reference encoding of the message, for every listing) and
  C04 (the parser reads every well-formed encoding as the RFC says, leaving the payload untouched).
-/
import IppModel.Props.C03
import IppModel.Props.C04
namespace Ipp.Props.C01
open Ipp.Gen Ipp.Spec

/-- Every message, whatever the position of its operation group: the bytes parse back to the message with its
    first operation group moved to the front (an empty one when it has none) and nothing else changed. -/
theorem roundtrip_any (h : Header) (gs L : List Group) (p : Bytes) (hwf : gs.all wfGroupC = true) (hL : ListingOf gs L) :
    parseFlat (encodeMsg h L ++ p) = .ok ((h, opFirst gs), p) := by
  obtain ⟨h1, h2, h3⟩ := C03.any_message h gs L hwf hL
  rw [h1, C04.parse_wellformed _ p h2, h3]

/-- the canonical listing is a listing -/
theorem listing_refl (gs : List Group) : ListingOf gs gs := by
  induction gs with
  | nil => trivial
  | cons g r ih => exact ⟨rfl, List.Perm.refl _, ih⟩

/-- on the constructors' shape `opFirst` changes nothing, so `roundtrip` is the special case -/
theorem opFirst_id_of_wf (gs : List Group) (hwf : wfMsg gs = true) : opFirst gs = gs :=
  (opFirst_of_wf hwf (listing_refl gs)).1

/-- In particular, for every header, every message of the public value model whose first group is the operation
    group, every iteration order of its maps and every payload: parsing the encoder's bytes followed by the
    payload returns the same header, the same groups in the same order with the same names bound to the same
    values, and the payload byte-identical. -/
theorem roundtrip (h : Header) (gs L : List Group) (p : Bytes) (hwf : wfMsg gs = true) (hL : ListingOf gs L) :
    parseFlat (encodeMsg h L ++ p) = .ok ((h, gs), p) := by
  have := roundtrip_any h gs L p (Bool.and_eq_true_iff.mp hwf).2 hL
  rwa [opFirst_id_of_wf gs hwf] at this

theorem roundtrip_canonical (h : Header) (gs : List Group) (p : Bytes) (hwf : wfMsg gs = true) :
    parseFlat (encodeMsg h gs ++ p) = .ok ((h, gs), p) :=
  roundtrip h gs gs p hwf (listing_refl gs)

/-- "A one-element set is identified with its element": they have the same bytes, hence the same reading. -/
theorem singleton_set (n : Bytes) (v : Value) : encAttr n (.array [v]) = encAttr n v := by
  simp only [encAttr, tagOf, tagOfFirst, encValue, encElems, if_true, List.nil_append, List.append_nil]

/-- non-vacuity (same message as in C03) -/
def demo : List Group :=
  [⟨.OperationAttributes, [([0x61], .array [.int .integer 1, .str .keyword [0x6b]]),
                           ([0x63], .coll [([0x6d], .array [.bool true, .noValue]),
                                           ([0x6e], .coll [([0x78], .str .textWithoutLanguage [0xc3, 0xa9])])])]⟩,
   ⟨.JobAttributes, []⟩, ⟨.OperationAttributes, [([0x7a], .other 0x2f [1, 2, 3])]⟩]

example : wfMsg demo = true := by decide

/-- `opFirst` loses and invents nothing: when the message has an operation group it only reorders the groups … -/
theorem opFirst_only_reorders (gs : List Group) (h : gs.any (fun g => g.tag == .OperationAttributes) = true) :
    (opFirst gs).Perm gs := by
  obtain ⟨x, hx, hp⟩ := List.any_eq_true.mp h
  -- the first operation group `a` splits the list; `opFirst` moves it to the front
  obtain ⟨a, l₁, l₂, h1, h2, rfl, he⟩ := List.exists_of_eraseP (p := opP) hx hp
  have hf : (l₁ ++ a :: l₂).find? opP = some a :=
    List.find?_eq_some_iff_append.mpr ⟨h2, l₁, l₂, rfl, fun x hx => by simpa using h1 x hx⟩
  rw [opFirst_eq, opHead, hf, he]
  exact List.perm_middle.symm

/-- … and when it has none, the encoder's empty operation group is put in front of the unchanged list -/
theorem opFirst_without_operation_group (gs : List Group) (h : gs.any (fun g => g.tag == .OperationAttributes) = false) :
    opFirst gs = ⟨.OperationAttributes, []⟩ :: gs := by
  have hn := List.any_eq_false.mp h
  rw [opFirst_eq, opHead, List.find?_eq_none.mpr hn, List.eraseP_of_forall_not hn]
  rfl

/-- The encoding is unambiguous: two (message, payload) pairs with the same bytes – under any two iteration orders of
    their maps – are the same header, the same groups and the same payload.  In particular no encoded message is a
    proper prefix of another one followed by document data, so the attribute/payload boundary is determined by the
    bytes alone. -/
theorem encode_injective (h h' : Header) (gs gs' L L' : List Group) (p p' : Bytes)
    (hwf : wfMsg gs = true) (hwf' : wfMsg gs' = true) (hL : ListingOf gs L) (hL' : ListingOf gs' L')
    (he : encodeMsg h L ++ p = encodeMsg h' L' ++ p') : h = h' ∧ gs = gs' ∧ p = p' := by
  have a := roundtrip h gs L p hwf hL
  have b := roundtrip h' gs' L' p' hwf' hL'
  rw [he, b] at a
  cases a
  exact ⟨rfl, rfl, rfl⟩

/-- the iteration order of the maps never changes what the bytes mean: two listings of one message parse alike -/
theorem listing_irrelevant (h : Header) (gs L L' : List Group) (p : Bytes) (hwf : wfMsg gs = true)
    (hL : ListingOf gs L) (hL' : ListingOf gs L') :
    parseFlat (encodeMsg h L ++ p) = parseFlat (encodeMsg h L' ++ p) := by
  rw [roundtrip h gs L p hwf hL, roundtrip h gs L' p hwf hL']

end Ipp.Props.C01
