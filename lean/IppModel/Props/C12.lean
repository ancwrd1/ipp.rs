/-
  C12 — TLS: servers are authenticated unless the caller explicitly opts out.
  PARTIAL: the theorem covers the flag and root plumbing of the four backend blocks (Model/Tls.lean) under
  the stated behaviour of the TLS libraries; the assurance that the libraries behave so comes from running
  the complete matrix for real on every check (both clients, both backends, real handshakes).
-/
import IppModel.Model.Tls
namespace Ipp.Props.C12


/-- the caller explicitly asked to ignore TLS errors: the most recent call of the setter said `true` -/
def optedOut (ig : IgnoreArg) : Bool := ig.getLast? == some true

/-- what the property demands -/
def shouldAccept (ig : IgnoreArg) (root : RootArg) (cert : CertKind) : Bool :=
  optedOut ig || (cert = .valid && (root = .correctPem || root = .correctDer || root = .decoyThenCorrect || root = .correctThenDecoy))

/-- the flag the builder ends with is the one of the most recent call; false when there was none -/
theorem flag_is_last_call (ig : IgnoreArg) : ignoreFlag ig = optedOut ig := by
  unfold ignoreFlag optedOut
  rcases List.eq_nil_or_concat ig with rfl | ⟨l, b, rfl⟩
  · rfl
  · cases b <;> simp

/-- every decoder path of the four blocks ends with the root in the store -/
theorem rootEffective_eq (c : ClientKind) (b : Backend) (e : Enc) : rootEffective c b e = some true := by
  cases c <;> cases b <;> cases e <;> rfl

/-- what the four blocks configure, in one line each: the flag goes to the verifier switch (blocking rustls)
    or to the two accept-invalid switches (the other three); every root handed over is installed -/
theorem tlsParams_eq (c : ClientKind) (b : Backend) (ig : IgnoreArg) (root : RootArg) :
    tlsParams c b ig root =
      if c = .blocking ∧ b = .rustls then ⟨false, false, optedOut ig, (rootData root).map (·.1), false⟩
      else ⟨optedOut ig, optedOut ig, false, (rootData root).map (·.1), false⟩ := by
  have hf : ∀ (l : List (Ca × Enc)) (acc : List Ca × Bool),
      l.foldl (fun acc r => (acc.1 ++ [r.1], acc.2)) acc = (acc.1 ++ l.map (·.1), acc.2) := by
    intro l
    induction l with
    | nil => simp
    | cons r l ih => intro acc; simp [ih]
  simp only [tlsParams, rootEffective_eq, hf, flag_is_last_call]
  cases c <;> cases b <;> rfl

theorem accepts_eq (c : ClientKind) (b : Backend) (ig : IgnoreArg) (root : RootArg) (cert : CertKind) (host : HostKind) :
    accepts c b ig root cert host =
      (optedOut ig || (((rootData root).map (·.1)).contains (issuer cert) && cert != .expired && cert != .wrongName)) := by
  rw [accepts, tlsParams_eq]
  -- the flag on both accept-invalid switches: `(o || x) && (o || y) = (o || x && y)`
  split <;> simp only [verify, Bool.not_false, Bool.true_and, Bool.false_or, Bool.or_and_distrib_left]

/-- the whole matrix: {blocking, async} × {native-tls, rustls} × every sequence of setter calls ×
    {no root, PEM, DER, unrelated} × {valid, wrong name, expired, self-signed, unknown CA} × {DNS name, IP literal} -/
theorem matrix (c : ClientKind) (b : Backend) (ig : IgnoreArg) (root : RootArg) (cert : CertKind) (host : HostKind) :
    accepts c b ig root cert host = shouldAccept ig root cert := by
  rw [accepts_eq, shouldAccept]
  cases root <;> cases cert <;> eq_refl

/-- unless the caller opts out, nothing is relaxed and every supplied root (PEM or DER) reaches the trust store -/
theorem plumbing (c : ClientKind) (b : Backend) (ig : IgnoreArg) (root : RootArg) (h : optedOut ig = false) :
    let p := tlsParams c b ig root
    p.acceptInvalidCerts = false ∧ p.acceptInvalidHostnames = false ∧ p.noVerifier = false ∧ p.buildFails = false ∧
    (∀ ca e, (ca, e) ∈ rootData root → ca ∈ p.roots) := by
  rw [tlsParams_eq, h, ite_self]
  exact ⟨rfl, rfl, rfl, rfl, fun _ _ => List.mem_map_of_mem⟩

/-- the default (flag never set) is to verify -/
theorem default_verifies : ignoreFlag [] = false := rfl

/-- a later `ignore_tls_errors(false)` takes an earlier opt-out back -/
theorem opt_out_can_be_revoked (before : IgnoreArg) : ignoreFlag (before ++ [false]) = false :=
  List.foldl_append

/-- a server whose certificate is untrusted, expired or for another name is rejected without opt-out -/
theorem bad_certificates_rejected (c : ClientKind) (b : Backend) (ig : IgnoreArg) (root : RootArg) (cert : CertKind)
    (host : HostKind) (h : optedOut ig = false) (hc : cert ≠ .valid) : accepts c b ig root cert host = false := by
  rw [matrix, shouldAccept, h, decide_eq_false hc]
  rfl

/-- a valid server is accepted with the correct root in either encoding -/
theorem valid_with_root_accepted (c : ClientKind) (b : Backend) (ig : IgnoreArg) (host : HostKind) :
    accepts c b ig .correctPem .valid host = true ∧ accepts c b ig .correctDer .valid host = true := by
  simp [matrix, shouldAccept]

/-- the defect repaired by the DER-root fix (F7): the old async block on the rustls backend lost a DER root -/
theorem old_async_rustls_lost_der_root : rootEffectiveAsyncOld .rustls .der = some false ∧
    rootEffective .async .rustls .der = some true := ⟨rfl, rfl⟩

end Ipp.Props.C12
