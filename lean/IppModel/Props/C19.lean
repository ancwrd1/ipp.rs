/-
  C19 — the attribute container and the value traversal behave as a simple ordered model.
-/
import IppModel.Model.Iter
import IppModel.Lemmas.AddHistory
namespace Ipp.Props.C19
open Ipp.Gen

abbrev Op := DelimiterTag × Bytes × Value

/-- a history of `add(group kind, name, value)` operations applied to a message -/
def addAll (gs : List Group) (ops : List Op) : List Group :=
  ops.foldl (fun g o => addAttr o.1 o.2.1 o.2.2 g) gs

theorem no_kind {gs : List Group} {t : DelimiterTag} (h : ∀ x ∈ gs, x.tag ≠ t) :
    gs.any (fun x => x.tag = t) = false :=
  List.any_eq_false.mpr fun x hx e => h x hx (of_decide_eq_true e)

/-- Adding puts the attribute into the *first* existing group of that kind, replacing any attribute of
    the same name there, and touches nothing else. -/
theorem add_into_first (pre post : List Group) (g : Group) (t : DelimiterTag) (n : Bytes) (v : Value)
    (hpre : ∀ x ∈ pre, x.tag ≠ t) (hg : g.tag = t) :
    addAttr t n v (pre ++ g :: post) = pre ++ { g with attrs := sinsert n v g.attrs } :: post := by
  rw [AddHist.addAttr_append, no_kind hpre, addAttr, if_pos hg]
  rfl

/-- When there is no group of that kind, a new group holding just this attribute is appended at the end. -/
theorem add_appends_new (gs : List Group) (t : DelimiterTag) (n : Bytes) (v : Value) (h : ∀ x ∈ gs, x.tag ≠ t) :
    addAttr t n v gs = gs ++ [⟨t, [(n, v)]⟩] := by
  have := AddHist.addAttr_append t n v gs []
  rwa [List.append_nil, no_kind h] at this

/-- after an add, the affected group binds the name to the new value and every other name as before -/
theorem add_lookup (attrs : List (Bytes × Value)) (n j : Bytes) (v : Value) :
    sget j (sinsert n v attrs) = if j = n then some v else sget j attrs :=
  sget_sinsert n j v attrs

/-- kinds in order of first use -/
def firstUse (ts : List DelimiterTag) : List DelimiterTag :=
  ts.foldl (fun acc t => if acc.contains t then acc else acc ++ [t]) []

/-- the (name, value) pairs added to kind `t`, in order -/
def opsFor (t : DelimiterTag) (ops : List Op) : List (Bytes × Value) :=
  (ops.filter fun o => o.1 = t).map fun o => (o.2.1, o.2.2)

/-- General form: from *any* start state – e.g. a parsed message with repeated groups – a history of
    additions yields exactly the declaratively specified message (Spec/Container.lean): every existing group
    that is the first of its kind receives the additions made to that kind, last one wins per name; other
    groups are untouched; new kinds are appended in order of first use. -/
theorem history_general (gs : List Group) (ops : List Spec.AddOp) :
    ops.foldl (fun g o => addAttr o.1 o.2.1 o.2.2 g) gs = Spec.addHistory gs ops :=
  AddHist.foldl_addHistory gs ops

/-- A message built only by additions holds one group per kind used, in order of first use, each with the
    most recent attribute per name (`sinsertAll` = insert in order, last wins). -/
theorem history_from_empty (ops : List Op) :
    addAll [] ops = (firstUse (ops.map (·.1))).map fun t => ⟨t, sinsertAll (opsFor t ops) []⟩ :=
by
  have hk : Spec.newKinds [] ops = firstUse (ops.map (·.1)) := by simp [Spec.newKinds, firstUse]
  rw [addAll, history_general, Spec.addHistory, hk]
  rfl

/-- From any start (e.g. a parsed message with repeated groups): the kinds of the existing groups never
    change or move, and new kinds are appended in order of first use. -/
theorem history_tags (gs : List Group) (ops : List Op) :
    (addAll gs ops).map (·.tag) =
      gs.map (·.tag) ++ (firstUse (ops.map (·.1))).filter (fun t => !(gs.map (·.tag)).contains t) := by
  rw [addAll, history_general, Spec.addHistory, List.map_append, AddHist.existingAfter_tags, List.map_map]
  -- the kinds of the new groups are `newKinds`, which is `firstUse` without the kinds `gs` has
  refine congrArg _ ((List.map_id _).trans ?_)
  refine (AddHist.foldl_firstUse_filter (fun t => gs.any fun g => g.tag = t) _ []).trans ?_
  -- `gs.any (·.tag = t)` and `(gs.map (·.tag)).contains t` are the same test
  refine List.filter_congr fun t _ => congrArg (!·) ?_
  rw [Bool.eq_iff_iff]
  simp only [List.contains_iff_mem, List.mem_map, List.any_eq_true, decide_eq_true_eq]

/-- Looking groups up by kind returns exactly the groups of that kind, in message order. -/
theorem groups_of_order (t : DelimiterTag) (gs : List Group) :
    (groupsOf t gs).Sublist gs ∧ (∀ g ∈ groupsOf t gs, g.tag = t) ∧ (∀ g ∈ gs, g.tag = t → g ∈ groupsOf t gs) := by
  refine ⟨List.filter_sublist, fun g hg => of_decide_eq_true (List.mem_filter.mp hg).2, fun g hg ht => ?_⟩
  exact List.mem_filter.mpr ⟨hg, decide_eq_true ht⟩

/-- the values an iterator over `v` yields -/
def items : Value → List Value
  | .array vs => vs
  | .coll ms => ms.map (·.2)
  | w => [w]

/-- `next` reads position `i` of `items v` -/
theorem next_eq (v : Value) (i : Nat) :
    IterSt.next ⟨v, i⟩ = if i < (items v).length then ((items v)[i]?, ⟨v, i + 1⟩) else (none, ⟨v, i⟩) := by
  cases v with
  | array vs => rfl
  | coll ms =>
    simp only [IterSt.next, items, List.getElem?_map, List.length_map]
    by_cases h : i < ms.length <;> simp [h]
  | _ => cases i <;> rfl

theorem valueSize_eq (v : Value) : valueSize v = (items v).length := by
  cases v <;> first | rfl | exact (List.length_map _).symm

theorem collect_eq (v : Value) (fuel i : Nat) (hi : i ≤ (items v).length) (hf : (items v).length - i < fuel) :
    IterSt.collect fuel ⟨v, i⟩ = ((items v).drop i, ⟨v, (items v).length⟩) := by
  induction fuel generalizing i with
  | zero => cases hf
  | succ fuel ih =>
    rw [IterSt.collect, next_eq]
    by_cases h : i < (items v).length
    · simp only [if_pos h, List.getElem?_eq_getElem h]
      rw [ih (i + 1) h (by omega), List.drop_eq_getElem_cons h]
    · obtain rfl : i = (items v).length := Nat.le_antisymm hi (Nat.le_of_not_lt h)
      simp

theorem collect_all (v : Value) : IterSt.collect (valueSize v + 1) v.iter = (items v, ⟨v, (items v).length⟩) :=
  collect_eq v _ 0 (Nat.zero_le _) (valueSize_eq v ▸ Nat.lt_succ_self _)

/-- Traversal visits the elements of a set in order, the member values of a collection in member-name
    order (the map is kept sorted by name), any other value exactly once. -/
theorem traversal (v : Value) :
    iterAll v = match v with
      | .array vs => vs
      | .coll ms => ms.map (·.2)
      | w => [w] := by
  have := congrArg Prod.fst (collect_all v)
  cases v <;> exact this

/-- …and then it ends: once `next` has returned `None` it keeps returning `None`. -/
theorem traversal_ends (s : IterSt) (h : s.next.1 = none) : s.next.2 = s ∧ (s.next.2).next.1 = none := by
  have e : s.next.2 = s := by
    rw [next_eq] at h ⊢
    split at h
    · rw [List.getElem?_eq_getElem ‹_›] at h
      cases h
    · rw [if_neg ‹_›]
  exact ⟨e, e.symm ▸ h⟩

/-- after a complete traversal the iterator is exhausted -/
theorem traversal_exhausts (v : Value) : ((IterSt.collect (valueSize v + 1) v.iter).2).next.1 = none := by
  rw [collect_all, next_eq, if_neg (Nat.lt_irrefl _)]

end Ipp.Props.C19
