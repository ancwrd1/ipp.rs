/-
  C05 — the async parser is observationally identical to the blocking parser.
  The two drive loops are transcribed with the tag ranges the translator extracts from each of them
  (`Gen.asyncLoop`, `Gen.syncLoop`) and run over the two different `read_exact`s (std: retries
  `Interrupted`; futures-util: returns it, suspends on `Pending`).
-/
import IppModel.Lemmas.Streams
namespace Ipp.Props.C05
open Ipp.Gen

/-- both loops dispatch on the same tag ranges and end on the same delimiter -/
theorem loops_pin : Gen.asyncLoop = Gen.syncLoop := asyncLoop_eq_syncLoop

/-- For every script of data chunks, not-ready results and failures (no `Interrupted`): same outcome –
    same header, groups, attributes and remaining stream, or the same error (same offending tag, same
    I/O error kind). -/
theorem async_eq_blocking (src : Source) (hi : noIntr src = true) : parseAsync src = parseSync src := by
  rw [parseAsync_eq, parseSync_eq]
  exact (parseWith_sim fut_std_sim syncLoop _ ⟨hi, rfl⟩).eq_of_eq fun _ _ h => h.2

/-- …also against the blocking parser run on the script with the not-ready results removed (which is
    how the harness drives the real blocking parser) -/
theorem async_eq_blocking_delivered (src : Source) (hi : noIntr src = true) :
    (parseAsync src).mapRest deliver = (parseSync (deliver src)).mapRest deliver := by
  rw [async_eq_blocking src hi, parseSync_deliver, parseSync_deliver, deliver_deliver]

/-- The one observable difference, stated rather than hidden in a hypothesis: `Interrupted` is retried
    by the blocking reader and returned by the async one. -/
theorem interrupted_differs :
    (parseSync [.interrupted, .data [1, 1, 0, 2, 0, 0, 0, 1, 3]]).mapRest Source.flat = .ok ((⟨0x0101, 2, 1⟩, []), []) ∧
    parseAsync [.interrupted, .data [1, 1, 0, 2, 0, 0, 0, 1, 3]] = .err (.io .interrupted) := by
  constructor <;> rfl

end Ipp.Props.C05
