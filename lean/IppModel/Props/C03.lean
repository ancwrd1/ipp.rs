/-
  C03 — encoder output is well-formed RFC 8010 and means what was encoded.
  For every message `gs` of the public value model (`wfMsg`) and every listing `L` of it (every iteration
  order of every attribute map), the bytes the encoder produces are exactly the RFC's serialisation `ser`
  of the reference wire tree `toWireMsg`, that tree is well-formed, and its RFC reading is the message.
  The independent decoder of the harness side (`Spec.unser`) is run on the real bytes by the check.
-/
import IppModel.Lemmas.UnserSer
import IppModel.Lemmas.Message
namespace Ipp.Props.C03
open Ipp.Gen Ipp.Spec

/-- Every message: the encoder's bytes are the reference encoding of the message with its operation group in front,
    that tree is well-formed, and its reading is exactly that message. -/
theorem any_message (h : Header) (gs L : List Group) (hwf : gs.all wfGroupC = true) (hL : ListingOf gs L) :
    encodeMsg h L = ser (toWireMsg h (opFirst L)) ∧ wfWire (toWireMsg h (opFirst L)) = true ∧
    interp (toWireMsg h (opFirst L)) = (h, opFirst gs) := by
  obtain ⟨hd, hc⟩ := listing_dom_canon hwf hL
  exact hc ▸ encode_any h L hd

/-- on the domain of C01 (`wfMsg`: the operation group is first) nothing is moved -/
theorem wf_message (h : Header) (gs L : List Group) (hwf : wfMsg gs = true) (hL : ListingOf gs L) :
    encodeMsg h L = ser (toWireMsg h L) ∧ wfWire (toWireMsg h L) = true ∧ interp (toWireMsg h L) = (h, gs) := by
  obtain ⟨eg, eL⟩ := opFirst_of_wf hwf hL
  have := any_message h gs L (Bool.and_eq_true_iff.mp hwf).2 hL
  rwa [eL, eg] at this

/-- bytes identical to the reference encoding (the only freedom is the listing, universally quantified) -/
theorem reference_encoding (h : Header) (gs L : List Group) (hwf : wfMsg gs = true) (hL : ListingOf gs L) :
    encodeMsg h L = ser (toWireMsg h L) :=
  (wf_message h gs L hwf hL).1

/-- the encoded tree is well-formed: tags in range, every length field equals what follows (by
    construction of `ser`), bodies fit their syntaxes, non-empty names, ≥ 1 value per attribute and member,
    brackets balanced -/
theorem wellformed (h : Header) (gs L : List Group) (hwf : wfMsg gs = true) (hL : ListingOf gs L) :
    wfWire (toWireMsg h L) = true :=
  (wf_message h gs L hwf hL).2.1

/-- read back by the RFC's reading, the content equals the message that was encoded -/
theorem means_what_was_encoded (h : Header) (gs L : List Group) (hwf : wfMsg gs = true) (hL : ListingOf gs L) :
    interp (toWireMsg h L) = (h, gs) :=
  (wf_message h gs L hwf hL).2.2

/-- every value carries the registered tag of its syntax -/
theorem registered_tags (v : Value) (inColl : Bool) (hv : wfVal inColl false v = true) : tagOf v = registryTag v :=
  tagOf_registry v inColl hv

/-- the attribute section ends with exactly one end tag: `ser` appends 0x03 once, after the groups -/
theorem single_end_tag (w : WMsg) :
    ser w = be16 w.version.toNat ++ (be16 w.op.toNat ++ (be32 w.id ++ (serGroups w.groups ++ [0x03]))) := rfl

/-- each additional value of a set has an empty name and its own tag (shape of `toksVs`) -/
theorem additional_values_shape (t : UInt8) (b : Bytes) (vs : List WVal) :
    toksVs (.plain t b :: vs) = ⟨t, [], b⟩ :: toksVs vs := rfl

/-- The independent decoder used on the real bytes (`Spec.unser`, plain recursive descent over the RFC 8010
    grammar) inverts the serialiser on every well-formed tree: the grammar is unambiguous and the decoder
    finds exactly the tree and the trailing data. -/
theorem independent_decoder_correct (w : WMsg) (p : Bytes) (h : wfWire w = true) : unser (ser w ++ p) = some (w, p) := by
  obtain ⟨ver, op, id, gs⟩ := w
  have hl := UnserSer.lex_all gs h p ((serGroups gs ++ 0x03 :: p).length + 1) (by
    simp only [List.length_append]
    omega)
  simp only [ser, be16, be32, List.cons_append, List.nil_append, List.append_assoc, unser, hl, UnserSer.treeGroups_ok gs h,
    ofNat_unbe16_be16, unbe32_be32]

/-- hence, for every message of the domain and every listing, the independent decoder reads the encoder's
    bytes as the reference wire tree -/
theorem independent_decoder_reads_encoder (h : Header) (gs L : List Group) (hwf : wfMsg gs = true) (hL : ListingOf gs L) :
    unser (encodeMsg h L) = some (toWireMsg h L, []) := by
  have := independent_decoder_correct (toWireMsg h L) [] (wellformed h gs L hwf hL)
  rwa [List.append_nil, ← reference_encoding h gs L hwf hL] at this

/-- non-vacuity: a message with a mixed set, nested collections with a multi-valued member, a repeated
    and an empty group is in the domain -/
def demo : List Group :=
  [⟨.OperationAttributes, [([0x61], .array [.int .integer 1, .str .keyword [0x6b]]),
                           ([0x63], .coll [([0x6d], .array [.bool true, .noValue]),
                                           ([0x6e], .coll [([0x78], .str .textWithoutLanguage [0xc3, 0xa9])])])]⟩,
   ⟨.JobAttributes, []⟩, ⟨.OperationAttributes, [([0x7a], .other 0x2f [1, 2, 3])]⟩]

example : wfMsg demo = true := by decide

/-! ### what the history oracle of the `encoded` op expects, as theorems -/

/-- the header is exactly eight octets, whatever its fields -/
theorem header_is_8 (h : Header) : (encHeader h).length = 8 := rfl

/-- The bytes depend on the header only through their first eight octets: changing the header of a message changes
    those eight octets to the new header and nothing after them. -/
theorem header_change (h h' : Header) (L : List Group) :
    encodeMsg h' L = encHeader h' ++ (encodeMsg h L).drop 8 := by
  rw [encodeMsg, encodeMsg, List.drop_left' (header_is_8 h)]

/-- a message without groups is its header, an empty operation group and the end tag -/
theorem no_groups (h : Header) : encodeMsg h [] = encHeader h ++ [0x01, 0x03] := rfl

end Ipp.Props.C03
