/-
  C08 — a message read as a stream is its header+attributes then its exact payload.
  PARTIAL: `io::Cursor`, `io::Chain` / futures `Chain`, `AllowStdIo`, `block_on` are modelled libraries
  (Model/Stream.lean transcribes their logic); what the ipp code contributes – the chaining order and the
  three-way payload dispatch for both interfaces – is what the theorem is about.
-/
import IppModel.Lemmas.StreamDrain
namespace Ipp.Props.C08


/-- For every message (any listing), every kind of payload source (none, blocking, async) with any
    fragmentation, not-ready and interrupted results, both consumption interfaces and every sequence of
    positive read-buffer sizes: the stream is exactly `to_bytes()` followed by exactly the payload, then EOF. -/
theorem stream_is_header_then_payload (cons : Consumer) (h : Header) (L : List Group) (pay : Payload)
    (sizes : List Nat) (dflt : Nat) (hd : 0 < dflt) (hs : sizes.all (fun n => decide (0 < n)) = true)
    (hf : noFault pay.source = true) :
    drain cons dflt (drainFuel (encodeMsg h L) pay sizes) sizes ⟨encodeMsg h L, false, pay⟩ =
      (encodeMsg h L ++ Source.flat pay.source, none) :=
  drain_content cons (encodeMsg h L) pay sizes dflt hd hs hf

/-- A blocking payload read through the async interface and an async payload read through the blocking
    interface deliver the same bytes (as each other and as the native combinations). -/
theorem bridges_agree (hdr : Bytes) (src : Source) (s1 s2 : List Nat) (hf : noFault src = true)
    (h1 : s1.all (fun n => decide (0 < n)) = true) (h2 : s2.all (fun n => decide (0 < n)) = true) :
    drain .async 4096 (drainFuel hdr (.sync src) s1) s1 ⟨hdr, false, .sync src⟩ =
    drain .blocking 4096 (drainFuel hdr (.async src) s2) s2 ⟨hdr, false, .async src⟩ :=
  (drain_content .async hdr (.sync src) s1 4096 (by decide) h1 hf).trans
    (drain_content .blocking hdr (.async src) s2 4096 (by decide) h2 hf).symm

/-- an empty payload contributes nothing -/
theorem empty_payload (cons : Consumer) (hdr : Bytes) (sizes : List Nat) (hs : sizes.all (fun n => decide (0 < n)) = true) :
    drain cons 4096 (drainFuel hdr .empty sizes) sizes ⟨hdr, false, .empty⟩ = (hdr, none) := by
  simpa [Payload.source, Source.flat] using drain_content cons hdr .empty sizes 4096 (by decide) hs rfl

/-- non-vacuity: one-byte buffers, a fragmented async payload with not-ready results read through the blocking interface -/
example : drain .blocking 4096 (drainFuel [1, 2] (.async [.pending, .data [7], .pending, .data [8, 9]]) [1, 1])
    [1, 1] ⟨[1, 2], false, .async [.pending, .data [7], .pending, .data [8, 9]]⟩ = ([1, 2, 7, 8, 9], none) := rfl

end Ipp.Props.C08
