/-
  C16 — protocol code tables match the IPP registries; status decoding is total.
  The tables on the left are regenerated from /repo's sources on every run (Generated/Source.lean); the
  registries on the right are written from the RFCs (spec/registry.txt).
-/
import IppModel.Model.Status
import IppModel.Lemmas.Tables
namespace Ipp.Props.C16
open Ipp.Gen Ipp.Spec

/-- the translator found every anchor it looks for -/
theorem extraction_complete : Gen.extractionErrors = [] := by decide

theorem status_table : tableOk StatusCode.table Registry.statusCode = true := by decide +kernel
theorem operation_table : tableOk Operation.table Registry.operation = true := by decide +kernel
theorem delimiter_table : tableOk DelimiterTag.table Registry.delimiterTag = true := by decide +kernel
theorem value_tag_table : tableOk ValueTag.table Registry.valueTag = true := by decide +kernel
theorem printer_state_table : tableOk PrinterState.table Registry.printerState = true := by decide +kernel
theorem job_state_table : tableOk JobState.table Registry.jobState = true := by decide +kernel
theorem orientation_table : tableOk Orientation.table Registry.orientation = true := by decide +kernel
theorem print_quality_table : tableOk PrintQuality.table Registry.printQuality = true := by decide +kernel
theorem finishings_table : tableOk Finishings.table Registry.finishings = true := by decide +kernel

/-- same entries, in any order -/
def sameEntries (a b : List (Bytes × Nat)) : Bool := a.all (fun p => b.contains p) && b.all (fun p => a.contains p)

/-- one half of `sameEntries` is the first test of `tableOk` -/
theorem sameEntries_of_tableOk {lib reg : List (Bytes × Nat)} (h : tableOk lib reg = true)
    (h' : lib.all (fun p => reg.contains p) = true) : sameEntries lib reg = true := by
  simp only [tableOk, Bool.and_eq_true] at h
  exact Bool.and_eq_true_iff.mpr ⟨h', h.1.1.1.1.1⟩

/-- the delimiter tags, value tags and operation ids the library *emits* (`as u8` / `as u16`) are exactly the
    registries': the tables coincide as sets (the order of the variants in the source is irrelevant) -/
theorem delimiter_table_exact : sameEntries DelimiterTag.table Registry.delimiterTag = true :=
  sameEntries_of_tableOk delimiter_table (by decide +kernel)
theorem value_tag_table_exact : sameEntries ValueTag.table Registry.valueTag = true :=
  sameEntries_of_tableOk value_tag_table (by decide +kernel)
theorem operation_table_exact : sameEntries Operation.table Registry.operation = true :=
  sameEntries_of_tableOk operation_table (by decide +kernel)

/-! ### status decoding is total and never confuses codes -/

theorem mem_table {s : StatusCode} (h : s ∈ StatusCode.all) : (s.ident, s.code) ∈ StatusCode.table :=
  List.mem_map_of_mem h

/-- what `statusOf` returns: the unknown variant when no variant has the code, else a variant with that very code -/
theorem statusOf_cases (c : Nat) :
    (statusOf c = .UnknownStatusCode ∧ ∀ v ∈ StatusCode.all, v.code ≠ c) ∨
      (statusOf c ∈ StatusCode.all ∧ (statusOf c).code = c) := by
  unfold statusOf
  cases hf : StatusCode.fromCode c with
  | none => exact .inl ⟨rfl, fun v hv e => List.find?_eq_none.mp hf v hv (beq_iff_eq.mpr e)⟩
  | some s => exact .inr ⟨List.mem_of_find?_eq_some hf, beq_iff_eq.mp (List.find?_some hf :)⟩

/-- A code RFC 8011 defines decodes to the registry's symbol for it. -/
theorem status_defined (c : Nat) (sym : Bytes) (h : (sym, c) ∈ Registry.statusCode) :
    (statusOf c).ident = sym := by
  have T := tableOk_facts status_table
  -- the registry's entry is in the library's table, so some variant has the code
  obtain ⟨v, hv, e⟩ := List.mem_map.mp (T.sub _ h)
  rcases statusOf_cases c with ⟨_, hn⟩ | ⟨hm, hc⟩
  · exact absurd (congrArg Prod.snd e) (hn v hv)
  · exact (congrArg Prod.fst (T.code _ (mem_table hm) _ h hc.symm)).symm

/-- Any other code decodes to `UnknownStatusCode` or to a variant whose own discriminant is that code
    (never the symbol of a different code). -/
theorem status_total (c : Nat) :
    statusOf c = .UnknownStatusCode ∨ (statusOf c).code = c :=
  (statusOf_cases c).imp (·.1) (·.2)

/-- the symbol reported for a code the registry does not define is not a registered symbol of another code -/
theorem status_never_foreign (c : Nat) (sym : Bytes) (c' : Nat)
    (h : (sym, c') ∈ Registry.statusCode) (hs : (statusOf c).ident = sym) : c = c' ∨ statusOf c = .UnknownStatusCode := by
  rcases statusOf_cases c with ⟨hu, _⟩ | ⟨hm, hc⟩
  · exact .inr hu
  · have := (tableOk_facts status_table).sym _ (mem_table hm) _ h hs.symm
    exact .inl (hc.symm.trans (congrArg Prod.snd this).symm)

theorem unknown_not_success : isSuccess .UnknownStatusCode = false := by decide

theorem success_codes_small : ∀ v ∈ Gen.successVariants, v.code ≤ 0xff := by decide

/-- Nothing outside the successful class 0x0000–0x00ff is ever reported as success. -/
theorem success_class (c : Nat) (h : isSuccess (statusOf c) = true) : c ≤ 0xff := by
  rcases status_total c with hu | hc
  · rw [hu, unknown_not_success] at h
    cases h
  · exact hc ▸ success_codes_small _ (List.contains_iff_mem.mp h)

/-- The RFC 8011 successful codes are reported as success. -/
theorem rfc_success : isSuccess (statusOf 0) = true ∧ isSuccess (statusOf 1) = true ∧ isSuccess (statusOf 2) = true := by
  decide

/-- non-vacuity: a defined code, an undefined code -/
example : (statusOf 0x0407).ident = StatusCode.ClientErrorGone.ident ∧ statusOf 0x1234 = .UnknownStatusCode := by decide

end Ipp.Props.C16
