/-
  The order in which the operation group goes on the wire: the encoder's two passes over the group's map
  (`encHeaderAttrs`, `encNonHeaderAttrs`) write `encAttrs (opOrder attrs)`, the RFC 8011 header attributes first;
  with unique names `opOrder` lists exactly the group's attributes.
-/
import IppModel.Lemmas.SMap
import IppModel.Spec.ToWire
namespace Ipp
open Gen Spec

theorem encAttrs_append (a b : List (Bytes × Value)) : encAttrs (a ++ b) = encAttrs a ++ encAttrs b := by
  induction a with
  | nil => rfl
  | cons p r ih => simp [encAttrs, ih]

/-- the translated header-attribute list is the RFC 8011 order -/
theorem headerAttrs_pin : Gen.headerAttrs = rfc8011Order := rfl

theorem encHeaderAttrs_eq (attrs : List (Bytes × Value)) (hs : List Bytes) :
    encHeaderAttrs attrs hs = encAttrs (hs.filterMap fun h => (sget h attrs).map fun v => (h, v)) := by
  induction hs with
  | nil => rfl
  | cons h hs ih =>
    simp only [encHeaderAttrs, List.filterMap_cons, ih]
    cases sget h attrs <;> rfl

theorem isHeaderAttr_eq (n : Bytes) : isHeaderAttr n = rfc8011Order.contains n := by
  simp only [isHeaderAttr, headerAttrs_pin, List.contains_eq_any_beq]
  congr 1
  funext h
  exact Bool.beq_comm

theorem encNonHeaderAttrs_eq (attrs : List (Bytes × Value)) :
    encNonHeaderAttrs attrs = encAttrs (attrs.filter fun p => !isHeaderAttr p.1) := by
  induction attrs with
  | nil => rfl
  | cons p r ih =>
    obtain ⟨n, v⟩ := p
    simp only [encNonHeaderAttrs, List.filter_cons, ih]
    cases isHeaderAttr n <;> rfl

theorem encOp_eq (attrs : List (Bytes × Value)) :
    encHeaderAttrs attrs headerAttrs ++ encNonHeaderAttrs attrs = encAttrs (opOrder attrs) := by
  simp only [encHeaderAttrs_eq, encNonHeaderAttrs_eq, isHeaderAttr_eq, headerAttrs_pin, opOrder, encAttrs_append]

theorem mem_opOrder_mem {attrs : List (Bytes × Value)} {p : Bytes × Value} (h : p ∈ opOrder attrs) : p ∈ attrs := by
  simp only [opOrder, List.mem_append, List.mem_filterMap, List.mem_filter, Option.map_eq_some_iff] at h
  rcases h with ⟨k, _, v, hv, rfl⟩ | ⟨h, _⟩
  · exact sget_mem hv
  · exact h

/-- with unique names the wire order of the operation group lists exactly the group's attributes -/
theorem mem_opOrder_iff {attrs : List (Bytes × Value)} (hf : KeyFn attrs) (p : Bytes × Value) :
    p ∈ opOrder attrs ↔ p ∈ attrs := by
  refine ⟨mem_opOrder_mem, fun hp => ?_⟩
  simp only [opOrder, List.mem_append, List.mem_filterMap, List.mem_filter, Option.map_eq_some_iff]
  cases hc : rfc8011Order.contains p.1 with
  | true => exact .inl ⟨p.1, List.contains_iff_mem.mp hc, p.2, (sget_iff_mem hf _ _).mpr hp, rfl⟩
  | false => exact .inr ⟨hp, rfl⟩

end Ipp
