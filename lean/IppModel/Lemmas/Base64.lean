/-
  base64 round trip (RFC 4648 with padding): three bytes are one 24-bit number, the four letters are its
  sextets; the alphabet is checked as a table, the regrouping is positional notation.
-/
import IppModel.Model.Http
import IppModel.Lemmas.Bytes
namespace Ipp

/-- the alphabet is a 64-entry table: `b64Val` inverts `b64Char`, and no letter is the pad -/
theorem b64Val_b64Char : ∀ n, n < 64 → b64Val (b64Char n) = some n ∧ b64Char n ≠ b64Pad := by decide +kernel

/-- four sextets of a number put back together, and the shorter prefixes -/
theorem sextets (n : Nat) :
    n / 262144 * 64 + n / 4096 % 64 = n / 4096 ∧
    n / 262144 * 4096 + n / 4096 % 64 * 64 + n / 64 % 64 = n / 64 ∧
    n / 262144 * 262144 + n / 4096 % 64 * 4096 + n / 64 % 64 * 64 + n % 64 = n :=
  digits4 64 n

theorem divMod256 (q d : Nat) (h : d < 256) : (q * 256 + d) / 256 = q ∧ (q * 256 + d) % 256 = d :=
  (Nat.div_mod_unique (by decide)).mpr ⟨by rw [Nat.add_comm, Nat.mul_comm], h⟩

/-- three bytes read back from the 24-bit number they make -/
theorem threeBytes {a b c n : Nat} (ha : a < 256) (hb : b < 256) (hc : c < 256) (e : n = a * 65536 + b * 256 + c) :
    n < 16777216 ∧ n / 65536 = a ∧ n / 256 % 256 = b ∧ n % 256 = c := by
  have hn : n = (a * 256 + b) * 256 + c := by simp only [e, Nat.add_mul, Nat.mul_assoc, Nat.reduceMul]
  obtain ⟨d1, m1⟩ := divMod256 (a * 256 + b) c hc
  obtain ⟨d2, m2⟩ := divMod256 a b hb
  have h1 : n / 65536 = a := by rw [← Nat.div_div_eq_div_mul n 256 256, hn, d1, d2]
  exact ⟨(Nat.div_lt_iff_lt_mul (by decide)).mp (h1 ▸ ha), h1, by rw [hn, d1, m2], by rw [hn, m1]⟩

/-- what `b64Decode` makes of the letters of a 24-bit number: two letters and two pads, three letters and
    a pad, and four letters in front of anything decodable (both the last-group equation of `b64Decode`,
    no pad among the letters, and the general one give this) -/
theorem decode_letters (n : Nat) (hn : n < 16777216) :
    b64Decode [b64Char (n / 262144), b64Char (n / 4096 % 64), b64Pad, b64Pad] = some [UInt8.ofNat (n / 65536)] ∧
    b64Decode [b64Char (n / 262144), b64Char (n / 4096 % 64), b64Char (n / 64 % 64), b64Pad] =
      some [UInt8.ofNat (n / 65536), UInt8.ofNat (n / 256 % 256)] ∧
    ∀ rest, b64Decode (b64Char (n / 262144) :: b64Char (n / 4096 % 64) :: b64Char (n / 64 % 64) :: b64Char (n % 64) :: rest) =
      (b64Decode rest).map fun r => UInt8.ofNat (n / 65536) :: UInt8.ofNat (n / 256 % 256) :: UInt8.ofNat (n % 256) :: r := by
  have m (k : Nat) : k % 64 < 64 := Nat.mod_lt k (by decide)
  have v1 := (b64Val_b64Char (n / 262144) (Nat.div_lt_of_lt_mul hn)).1
  have v2 := (b64Val_b64Char _ (m (n / 4096))).1
  obtain ⟨v3, p3⟩ := b64Val_b64Char _ (m (n / 64))
  obtain ⟨v4, p4⟩ := b64Val_b64Char _ (m n)
  obtain ⟨s1, s2, s3⟩ := sextets n
  refine ⟨?_, ?_, fun rest => ?_⟩
  · simp only [b64Decode, v1, v2, and_self, if_true, s1, Nat.div_div_eq_div_mul, Nat.reduceMul]
  · simp only [b64Decode, v1, v2, v3, p3, false_and, if_false, if_true, s2, Nat.div_div_eq_div_mul, Nat.reduceMul]
  · cases rest with
    | nil => simp only [b64Decode, v1, v2, v3, v4, p3, p4, false_and, if_false, s3, Option.map]
    | cons x xs => cases h : b64Decode (x :: xs) <;> simp only [b64Decode, v1, v2, v3, v4, h, s3, Option.map]

theorem b64_roundtrip (bs : Bytes) : b64Decode (b64Encode bs) = some bs := by
  fun_induction b64Encode bs with
  | case1 => rfl
  | case2 a n =>
    -- one byte is three with two zeros; the equation is given, as `rfl` at `t = t + 0` does not terminate here
    obtain ⟨hn, h1, _, _⟩ := threeBytes (b := 0) (c := 0) a.toNat_lt (by decide) (by decide) (Nat.add_zero n).symm
    simp only [(decode_letters n hn).1, h1, UInt8.ofNat_toNat]
  | case3 a b n =>
    obtain ⟨hn, h1, h2, _⟩ := threeBytes (c := 0) a.toNat_lt b.toNat_lt (by decide) (Nat.add_zero n).symm
    simp only [(decode_letters n hn).2.1, h1, h2, UInt8.ofNat_toNat]
  | case4 a b c r n ih =>
    obtain ⟨hn, h1, h2, h3⟩ := threeBytes (n := n) a.toNat_lt b.toNat_lt c.toNat_lt rfl
    simp only [(decode_letters n hn).2.2, ih, h1, h2, h3, UInt8.ofNat_toNat, Option.map_some]

end Ipp
