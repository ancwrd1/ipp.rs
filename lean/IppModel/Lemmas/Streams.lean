/-
  What C05, C06 and C07 share: both stream parsers are the parser over `gRd retry` with the one loop
  configuration; over a clean script it is the flat parser on the script's bytes (the simulations of
  Scripted.lean), and exact consumption on the flat reader (Flat.lean) tells where it fails.
-/
import IppModel.Lemmas.Flat
import IppModel.Lemmas.Scripted
namespace Ipp
open Gen

theorem asyncLoop_eq_syncLoop : asyncLoop = syncLoop := by decide

theorem parseSync_eq (src : Source) : parseSync src = parseWith (gRd true) syncLoop (Source.size src + 1) src := by
  rw [parseSync, stdRd_eq]

theorem parseAsync_eq (src : Source) : parseAsync src = parseWith (gRd false) syncLoop (Source.size src + 1) src := by
  rw [parseAsync, futRd_eq, asyncLoop_eq_syncLoop]

/-- the blocking parser does not see the not-ready results -/
theorem parseSync_deliver (src : Source) : (parseSync src).mapRest deliver = parseSync (deliver src) := by
  unfold parseSync
  rw [size_deliver]
  exact (parseWith_sim std_deliver_sim syncLoop _ rfl).mapRest_eq fun _ _ h => h

theorem Clean.std {src : Source} (hf : noFault src = true) : Clean true src := ⟨hf, fun h => nomatch h⟩

theorem Clean.fut {src : Source} (hf : noFault src = true) (hi : noIntr src = true) : Clean false src :=
  ⟨hf, fun _ => hi⟩

/-- the parser over a script that stays `Clean` reads what the flat parser reads from its bytes -/
theorem parseG_flat (retry : Bool) (src : Source) (hc : Clean retry src) :
    (parseWith (gRd retry) syncLoop (Source.size src + 1) src).mapRest Source.flat = parseFlat (Source.flat src) := by
  have hs := parseWith_sim (g_cut_sim retry [] .unexpectedEof fun _ => rfl) syncLoop
    (Source.size src + 1) (r1 := src) (r2 := Source.flat src) ⟨src, (List.append_nil _).symm, hc, rfl⟩
  unfold parseFlat
  rw [flatRd_eq_cutRd, ← size_eq_flat_length]
  refine hs.mapRest_eq ?_
  intro r1 r2 ⟨s', h1, _, h3⟩
  rw [h1, List.append_nil, h3]

/-- A script whose clean part `src1` delivers a proper prefix of the consumed part and whose rest `t` fails every
    read with `e` is rejected with `e` (`t = []`: end of stream; `t = .fail e :: _`: a fault). -/
theorem parseG_cut (retry : Bool) (bs : Bytes) (r : Header × List Group) (rest : Bytes)
    (h : parseFlat bs = .ok (r, rest)) (src1 t : Source) (e : IoKind) (ht : ∀ m, readExactG retry (m + 1) t = .error e)
    (hc : Clean retry src1) (hk : (Source.flat src1).length < bs.length - rest.length)
    (hp : Source.flat src1 = bs.take (Source.flat src1).length) :
    parseWith (gRd retry) syncLoop (Source.size (src1 ++ t) + 1) (src1 ++ t) = .err (.io e) := by
  have hcut := parseCut_prefix bs r rest h _ hk e (Source.size (src1 ++ t) + 1)
    (by rw [size_append, size_eq_flat_length src1]; omega)
  rw [← hp] at hcut
  exact (parseWith_sim (g_cut_sim retry t e ht) syncLoop _ (r1 := src1 ++ t) (r2 := Source.flat src1)
    ⟨src1, rfl, hc, rfl⟩).err_right hcut

end Ipp
