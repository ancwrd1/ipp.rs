/-
  Facts about scripted sources that the readers (Scripted.lean) and the stream (StreamDrain.lean) share.
-/
import IppModel.Model.Sources
namespace Ipp

theorem size_eq_flat_length (src : Source) : Source.size src = (Source.flat src).length := by
  induction src with
  | nil => rfl
  | cons e r ih => cases e <;> simp [Source.size, Source.flat, ih]

theorem size_append (a b : Source) : Source.size (a ++ b) = Source.size a + Source.size b := by
  induction a with
  | nil => simp [Source.size]
  | cons e r ih => cases e <;> simp only [List.cons_append, Source.size, ih, Nat.add_assoc]

theorem deliver_cons (e : Ev) (r : Source) :
    deliver (e :: r) = if e.isPending = true then deliver r else e :: deliver r := by
  simp only [deliver, List.filter_cons]
  cases e.isPending <;> rfl

theorem size_deliver (src : Source) : Source.size (deliver src) = Source.size src := by
  induction src with
  | nil => rfl
  | cons e r ih => cases e <;> simp [deliver_cons, Ev.isPending, Source.size, ih]

theorem deliver_deliver (src : Source) : deliver (deliver src) = deliver src := by
  simp [deliver, List.filter_filter]

theorem noFault_cons (e : Ev) (r : Source) : noFault (e :: r) = true ↔ (e.isFail = false ∧ noFault r = true) := by
  simp [noFault]

theorem noIntr_cons (e : Ev) (r : Source) : noIntr (e :: r) = true ↔ (e.isIntr = false ∧ noIntr r = true) := by
  simp [noIntr]

end Ipp
