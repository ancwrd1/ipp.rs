/-
  `lossy` is the identity on valid UTF-8, keeps emptiness, and at most triples the length.
-/
import IppModel.Model.Utf8
namespace Ipp

/-- `classify` takes at least one byte (when there is one) and no more than there are: every leaf of
    its case tree is a literal count of bytes it has matched -/
theorem classify_bounds (bs : Bytes) : (bs ≠ [] → 1 ≤ (classify bs).1) ∧ (classify bs).1 ≤ bs.length := by
  fun_cases classify bs with
  | case1 => exact ⟨fun h => absurd rfl h, Nat.le_refl 0⟩
  | _ => exact ⟨fun _ => Nat.le_add_left _ _, Nat.le_add_left _ _⟩

theorem classify_pos (b : UInt8) (r : Bytes) : 1 ≤ (classify (b :: r)).1 :=
  (classify_bounds _).1 (List.cons_ne_nil _ _)

theorem lossyF_id (fuel : Nat) (bs : Bytes) (hf : bs.length ≤ fuel) (h : validF fuel bs = true) :
    lossyF fuel bs = bs := by
  fun_induction lossyF fuel bs with
  | case1 bs => exact (List.eq_nil_of_length_eq_zero (Nat.le_zero.mp hf)).symm
  | case2 => rfl
  | case3 n b r c _ ih =>
    have hc : 1 ≤ c.1 := classify_pos b r
    have hd : ((b :: r).drop c.1).length ≤ n := by
      rw [List.length_drop]
      exact Nat.sub_le_of_le_add (Nat.le_trans hf (Nat.add_le_add_left hc n))
    rw [ih hd (Bool.and_eq_true_iff.mp h).2, List.take_append_drop]
  | case4 n b r c hc => exact absurd (Bool.and_eq_true_iff.mp h).1 hc

/-- `String::from_utf8_lossy` does not change valid UTF-8 -/
theorem lossy_id (bs : Bytes) (h : validUtf8 bs = true) : lossy bs = bs :=
  lossyF_id _ _ (Nat.le_refl _) h

theorem lossy_nil : lossy [] = [] := rfl

theorem lossy_isEmpty (n : Bytes) : (lossy n).isEmpty = n.isEmpty := by
  cases n with
  | nil => rfl
  | cons b r =>
    -- the first chunk is U+FFFD or at least one byte of the input
    obtain ⟨k, hk⟩ := Nat.exists_eq_add_of_le' (classify_pos b r)
    simp only [lossy, List.length_cons, lossyF, hk]
    split <;> rfl

/-- lossy decoding at most triples the length (one byte may become U+FFFD, three bytes) -/
theorem lossyF_length_le (fuel : Nat) (bs : Bytes) : (lossyF fuel bs).length ≤ 3 * bs.length := by
  fun_induction lossyF fuel bs with
  | case1 => exact Nat.zero_le _
  | case2 => exact Nat.zero_le _
  | case3 n b r c _ ih =>
    have hle : c.1 ≤ (b :: r).length := (classify_bounds _).2
    simp only [List.length_append, List.length_take, List.length_drop] at ih ⊢
    omega
  | case4 n b r c _ ih =>
    have hpos : 1 ≤ c.1 := classify_pos b r
    have hle : c.1 ≤ (b :: r).length := (classify_bounds _).2
    simp only [List.length_append, List.length_drop, fffd, List.length_cons, List.length_nil] at ih ⊢
    omega

theorem lossy_length_le (bs : Bytes) : (lossy bs).length ≤ 3 * bs.length := lossyF_length_le _ _

end Ipp
