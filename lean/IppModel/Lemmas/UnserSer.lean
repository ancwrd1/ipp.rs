/-
  The independent RFC 8010 reader `unser` inverts the serialiser `ser` on well-formed wire trees.
  It rests on the wire grammar alone (WfWire.lean); of the tokens of well-formed attributes it uses that they
  are `tokOk syncLoop`, which by `tokOk_syncLoop` says no more than: value tag, both lengths below 2^16.
-/
import IppModel.Spec.Unser
import IppModel.Lemmas.Bytes
import IppModel.Lemmas.WfWire
namespace Ipp.UnserSer
open Ipp.Gen Ipp.Spec

theorem takeN_append (a r : Bytes) : takeN a.length (a ++ r) = some (a, r) := by
  simp [takeN]

theorem readLen_be16 (n : Nat) (h : n < 65536) (r : Bytes) : readLen (be16 n ++ r) = some (n, r) := by
  simp only [be16, List.cons_append, List.nil_append, readLen, unbe16_be16 n h]

theorem toksBytes_length_ge (ts : List Tok) : ts.length ≤ (toksBytes ts).length := by
  induction ts with
  | nil => exact Nat.le_refl 0
  | cons t ts ih =>
    rw [toksBytes, List.length_append, Nat.add_comm]
    exact Nat.add_le_add ih (Nat.succ_pos _)

/-- one value token is consumed in one iteration and pushed onto the open group -/
theorem lex_tok (t : Tok) (h : tokOk syncLoop t = true) (f : Nat) (rest : Bytes) (g : UInt8) (acc : List Tok)
    (done : List (UInt8 × List Tok)) :
    lexGroups (f + 1) (tokBytes t ++ rest) ((g, acc) :: done) = lexGroups f rest ((g, t :: acc) :: done) := by
  obtain ⟨tag, name, body⟩ := t
  obtain ⟨hv, hn, hb⟩ := tokOk_syncLoop.mp h
  simp only [valueTagOk, Bool.and_eq_true, decide_eq_true_eq] at hv
  have n3 : tag ≠ 0x03 := by
    rintro rfl
    exact absurd hv.1 (by decide)
  have n1 : ¬ (tag = 0x01 ∨ tag = 0x02 ∨ tag = 0x04 ∨ tag = 0x05) := by
    rintro (rfl | rfl | rfl | rfl) <;> exact absurd hv.1 (by decide)
  simp only [tokBytes, List.cons_append, List.append_assoc, lexGroups, n3, n1, hv, ↓reduceIte, and_self,
    readLen_be16 _ hn, readLen_be16 _ hb, takeN_append]

theorem lex_toks (ts : List Tok) (h : ts.all (tokOk syncLoop) = true) (f : Nat) (rest : Bytes) (g : UInt8)
    (acc : List Tok) (done : List (UInt8 × List Tok)) :
    lexGroups (f + ts.length) (toksBytes ts ++ rest) ((g, acc) :: done) =
      lexGroups f rest ((g, ts.reverse ++ acc) :: done) := by
  induction ts generalizing acc with
  | nil => rfl
  | cons t ts ih =>
    simp only [List.all_cons, Bool.and_eq_true] at h
    rw [List.length_cons, ← Nat.add_assoc, toksBytes, List.append_assoc, lex_tok t h.1, ih h.2, List.reverse_cons,
      List.append_assoc]
    rfl

theorem lex_delim (tag : UInt8) (h : tag = 0x01 ∨ tag = 0x02 ∨ tag = 0x04 ∨ tag = 0x05) (f : Nat) (r : Bytes)
    (done : List (UInt8 × List Tok)) : lexGroups (f + 1) (tag :: r) done = lexGroups f r ((tag, []) :: done) := by
  have n3 : tag ≠ 0x03 := by
    rintro rfl
    exact absurd h (by decide)
  simp only [lexGroups, n3, h, ↓reduceIte]

/-- the groups take some `k` iterations, no more than they have bytes -/
theorem lex_groups (gs : List WGroup) (h : wfGroups gs = true) :
    ∃ k, k ≤ (serGroups gs).length ∧ ∀ f rest done, lexGroups (f + k) (serGroups gs ++ rest) done =
      lexGroups f rest ((gs.map fun g => (g.tag, (toksAttrs g.attrs).reverse)).reverse ++ done) := by
  induction gs with
  | nil => exact ⟨0, Nat.le_refl _, fun _ _ _ => rfl⟩
  | cons g gs ih =>
    obtain ⟨hd, ha, hgs⟩ := wfGroups_cons.mp h
    obtain ⟨k, hk, he⟩ := ih hgs
    refine ⟨k + (toksAttrs g.attrs).length + 1, ?_, fun f rest done => ?_⟩
    · have := toksBytes_length_ge (toksAttrs g.attrs)
      simp only [serGroups, serGroup, List.length_append, List.length_cons]
      omega
    · simp only [serGroups, serGroup, List.cons_append, List.append_assoc]
      rw [← Nat.add_assoc, ← Nat.add_assoc, lex_delim g.tag hd, lex_toks _ (toksAttrs_ok g.attrs ha), he]
      simp

theorem lex_all (gs : List WGroup) (h : wfGroups gs = true) (p : Bytes) (fuel : Nat)
    (hf : (serGroups gs).length < fuel) :
    lexGroups fuel (serGroups gs ++ 0x03 :: p) [] = some (gs.map fun g => (g.tag, toksAttrs g.attrs), p) := by
  obtain ⟨k, hk, he⟩ := lex_groups gs h
  obtain ⟨f, rfl⟩ : ∃ f, fuel = f + 1 + k := ⟨fuel - 1 - k, by omega⟩
  rw [he]
  simp [lexGroups, Function.comp_def]

/-- the test by which `treeVs` stops reading additional values -/
def stops (c : Bool) : List Tok → Prop
  | [] => True
  | t :: _ => (!t.name.isEmpty) = true ∨ (c = true ∧ (t.tag = 0x4a ∨ t.tag = 0x37))

theorem treeVs_stop (c : Bool) (f : Nat) (rest : List Tok) (h : stops c rest) :
    treeVs c (f + 1) rest = some ([], rest) := by
  cases rest with
  | nil => rfl
  | cons t ts =>
    exact if_pos h

theorem toksMs_stops (ms : List (Bytes × List WVal)) (rest : List Tok) :
    stops true (toksMs ms ++ ⟨0x37, [], []⟩ :: rest) := by
  cases ms with
  | nil => exact .inr ⟨rfl, .inr rfl⟩
  | cons p ms => exact .inr ⟨rfl, .inl rfl⟩

mutual
/-- the head field of a value carries the given name, its tag is none of those at which `treeVs` stops, and
    from there `treeV` reads the value back -/
theorem treeV_ok (c : Bool) (name : Bytes) (v : WVal) (h : wfV c v = true) :
    ∃ tag body ts, toksV name v = ⟨tag, name, body⟩ :: ts ∧ ¬ (c = true ∧ (tag = 0x4a ∨ tag = 0x37)) ∧
      ∀ rest fuel, ts.length < fuel → treeV fuel (⟨tag, name, body⟩ :: (ts ++ rest)) = some (v, rest) := by
  cases v with
  | plain t b =>
    obtain ⟨-, h34, h37, h4a, -⟩ := wfV_plain.mp h
    refine ⟨t, b, [], rfl, fun ⟨hc, e⟩ => e.elim (h4a hc) h37, fun rest fuel hf => ?_⟩
    cases fuel with
    | zero => cases hf
    | succ f => simp only [List.nil_append, treeV, h34, h37, ↓reduceIte]
  | coll ms =>
    refine ⟨0x34, [], _, rfl, fun ⟨_, e⟩ => absurd e (by decide), fun rest fuel hf => ?_⟩
    rw [List.length_append] at hf
    cases fuel with
    | zero => cases hf
    | succ f =>
      simp only [List.cons_append, List.append_assoc, List.nil_append, treeV, ↓reduceIte, List.isEmpty_nil,
        treeMs_ok ms h rest f (Nat.le_of_succ_le_succ hf)]
theorem treeVs_ok (c : Bool) (vs : List WVal) (h : wfVs c vs = true) (rest : List Tok) (hs : stops c rest)
    (fuel : Nat) (hf : (toksVs vs).length + 1 ≤ fuel) : treeVs c fuel (toksVs vs ++ rest) = some (vs, rest) := by
  cases fuel with
  | zero => cases hf
  | succ f =>
    cases vs with
    | nil => exact treeVs_stop c f rest hs
    | cons v vs =>
      obtain ⟨hv, hvs⟩ := wfVs_cons.mp h
      obtain ⟨tag, body, ts, he, hns, h1⟩ := treeV_ok c [] v hv
      simp only [toksVs, he, List.length_append, List.length_cons] at hf
      simp only [toksVs, he, List.append_assoc, List.cons_append, treeVs, List.isEmpty_nil, Bool.not_true,
        Bool.false_eq_true, hns, or_self, ↓reduceIte, h1 _ f (by omega), treeVs_ok c vs hvs rest hs f (by omega)]
theorem treeMs_ok (ms : List (Bytes × List WVal)) (h : wfMs ms = true) (rest : List Tok) (fuel : Nat)
    (hf : (toksMs ms).length + 1 ≤ fuel) :
    treeMs fuel (toksMs ms ++ ⟨0x37, [], []⟩ :: rest) = some (ms, rest) := by
  cases fuel with
  | zero => cases hf
  | succ f =>
    cases ms with
    | nil => rfl
    | cons p ms =>
      obtain ⟨k, vs⟩ := p
      obtain ⟨-, hne, hvs, hms⟩ := wfMs_cons.mp h
      simp only [toksMs, List.length_cons, List.length_append] at hf
      have d1 : ¬ ((0x4a : UInt8) = 0x37) := by decide
      simp only [toksMs, List.cons_append, List.append_assoc, treeMs, List.isEmpty_nil, Bool.not_true,
        Bool.false_eq_true, d1, ↓reduceIte, treeVs_ok true vs hvs _ (toksMs_stops ms rest) f (by omega),
        List.isEmpty_eq_false_iff.mpr hne, treeMs_ok ms hms rest f (by omega)]
end

theorem toksAttrs_stops (as : List WAttr) (h : wfAttrs as = true) : stops false (toksAttrs as) := by
  cases as with
  | nil => trivial
  | cons a as =>
    obtain ⟨name, vals⟩ := a
    obtain ⟨hn, -, v, vs, rfl, hv, -⟩ := wfAttr_iff.mp (wfAttrs_cons.mp h).1
    obtain ⟨tag, body, ts, he, -⟩ := treeV_ok false name v hv
    simp only [toksAttrs, toksAttr, he, List.cons_append, stops, hn, Bool.not_false, true_or]

theorem treeAttrs_ok (as : List WAttr) (h : wfAttrs as = true) (fuel : Nat)
    (hf : (toksAttrs as).length + 1 ≤ fuel) : treeAttrs fuel (toksAttrs as) = some as := by
  induction as generalizing fuel with
  | nil =>
    cases fuel with
    | zero => cases hf
    | succ f => rfl
  | cons a as ih =>
    obtain ⟨name, vals⟩ := a
    obtain ⟨ha, has⟩ := wfAttrs_cons.mp h
    obtain ⟨hn, -, v, vs, rfl, hv, hvs⟩ := wfAttr_iff.mp ha
    obtain ⟨tag, body, ts, he, -, h1⟩ := treeV_ok false name v hv
    simp only [toksAttrs, toksAttr, he, List.length_append, List.length_cons] at hf
    cases fuel with
    | zero => cases hf
    | succ f =>
      have h2 := treeVs_ok false vs hvs (toksAttrs as) (toksAttrs_stops as has) (f + 1) (by omega)
      -- the progress test of `treeAttrs`: what is left is shorter than what it started from
      have hlen : (toksAttrs as).length < (ts ++ (toksVs vs ++ toksAttrs as)).length + 1 := by
        simp only [List.length_append]
        omega
      simp only [toksAttrs, toksAttr, he, List.append_assoc, List.cons_append, treeAttrs, hn, Bool.false_eq_true,
        ↓reduceIte, h1 _ (f + 1) (by omega), h2, List.length_cons, hlen, ih has f (by omega)]

theorem treeGroups_ok (gs : List WGroup) (h : wfGroups gs = true) :
    treeGroups (gs.map fun g => (g.tag, toksAttrs g.attrs)) = some gs := by
  induction gs with
  | nil => rfl
  | cons g gs ih =>
    obtain ⟨-, ha, hgs⟩ := wfGroups_cons.mp h
    simp only [List.map_cons, treeGroups, treeAttrs_ok g.attrs ha (2 * (toksAttrs g.attrs).length + 2) (by omega),
      ih hgs]

end Ipp.UnserSer
