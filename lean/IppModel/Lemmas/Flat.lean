/-
  The flat reader.  Forwards: what the readers and one loop step do on serialised fields, hence framing (the
  byte loop over serialised tokens is the token-level run of the machine).  Backwards: nothing reads ahead
  (`Exact`, carried through `bind`): a successful run consumed exactly a prefix of its input.
-/
import IppModel.Lemmas.Total
import IppModel.Lemmas.WfWire
import IppModel.Lemmas.Bytes
import IppModel.Spec.Wire
namespace Ipp
open Gen Spec

variable {σ α β : Type}

theorem rdN_flat {n : Nat} (a r : Bytes) (g : Bytes → Outcome (α × Bytes)) (h : a.length = n) :
    rdN flatRd n g (a ++ r) = (g a).bind fun q => .ok (q.1, r) := by
  subst h; simp [rdN, flatRd, ofRead]

theorem rdN_flat_u8 (b : UInt8) (r : Bytes) : rdN flatRd 1 getU8 (b :: r) = .ok (b, r) :=
  rdN_flat [b] r getU8 rfl

theorem rdN_flat_be16 (n : Nat) (h : n < 65536) (r : Bytes) : rdN flatRd 2 getU16 (be16 n ++ r) = .ok (n, r) := by
  rw [rdN_flat (n := 2) (be16 n) r getU16 rfl]
  simp only [be16, getU16, unbe16_be16 n h, Outcome.bind_ok]

theorem rdLV_flat (a r : Bytes) (h : a.length < 65536) :
    rdLV flatRd (be16 a.length ++ (a ++ r)) = .ok (a, r) := by
  rw [rdLV_eq, rdN_flat_be16 _ h]
  simp [flatRd, ofRead]

theorem rdHeader_flat (v o : UInt16) (i : UInt32) (r : Bytes) :
    rdHeader flatRd (be16 v.toNat ++ (be16 o.toNat ++ (be32 i ++ r))) = .ok (⟨v, o, i⟩, r) := by
  simp only [rdHeader_eq, rdN_flat_be16 _ v.toNat_lt, rdN_flat_be16 _ o.toNat_lt, Outcome.bind_ok,
    rdN_flat (n := 4) (be32 i) r getU32 rfl]
  simp only [be32, getU32, unbe32_be32, UInt16.ofNat_toNat, Outcome.bind_ok]

theorem rdItem_flat_delim (cfg : LoopCfg) (tag : UInt8) (r : Bytes) (hr : cfg.isDelim tag) :
    rdItem flatRd cfg (tag :: r) = .ok (.delim tag, r) := by
  simp only [rdItem, rdN_flat_u8, Outcome.bind_ok, if_pos hr]

theorem rdItem_flat_bad (cfg : LoopCfg) (tag : UInt8) (r : Bytes) (h1 : ¬ cfg.isDelim tag) (h2 : ¬ cfg.isValue tag) :
    rdItem flatRd cfg (tag :: r) = .err (.invalidTag tag) := by
  simp only [rdItem, rdN_flat_u8, Outcome.bind_ok, if_neg h1, if_neg h2]

theorem rdItem_flat_tok (cfg : LoopCfg) (t : Tok) (r : Bytes) (ht : tokOk cfg t = true) :
    rdItem flatRd cfg (tokBytes t ++ r) = .ok (.value t.tag t.name t.body, r) := by
  simp only [tokOk, Bool.and_eq_true, Bool.not_eq_true', Bool.eq_false_iff, ne_eq, decide_eq_true_eq] at ht
  obtain ⟨⟨⟨hv, hd⟩, h4⟩, h5⟩ := ht
  simp only [rdItem, tokBytes, List.cons_append, List.append_assoc, rdN_flat_u8, Outcome.bind_ok,
    if_neg hd, if_pos hv, rdLV_flat _ _ h4, rdLV_flat _ _ h5]

/-- token-level run of a machine: feed the value tokens one after the other -/
def runToks (m : Machine σ) : List Tok → σ → Outcome σ
  | [], st => .ok st
  | t :: ts, st => (m.value st t.tag t.name t.body).bind (runToks m ts)

theorem runToks_append (m : Machine σ) (a b : List Tok) (st : σ) :
    runToks m (a ++ b) st = (runToks m a st).bind (runToks m b) := by
  induction a generalizing st with
  | nil => rfl
  | cons t ts ih =>
    simp only [List.cons_append, runToks, Outcome.bind_assoc]
    exact Outcome.bind_congr fun s _ => ih s

theorem driveLoop_toks (cfg : LoopCfg) (m : Machine σ) (ts : List Tok) (hwf : ts.all (tokOk cfg) = true)
    (rest : Bytes) (st st' : σ) (h : runToks m ts st = .ok st') (fuel : Nat) :
    driveLoop flatRd cfg m (fuel + ts.length) (toksBytes ts ++ rest) st = driveLoop flatRd cfg m fuel rest st' := by
  induction ts generalizing st with
  | nil => cases h; rfl
  | cons t ts ih =>
    simp only [List.all_cons, Bool.and_eq_true] at hwf
    obtain ⟨s1, hv, h⟩ := Outcome.bind_eq_ok.mp h
    rw [List.length_cons, ← Nat.add_assoc, driveLoop_succ, toksBytes, List.append_assoc,
      rdItem_flat_tok cfg t _ hwf.1, Outcome.bind_ok, Machine.feed, hv]
    exact ih hwf.2 s1 h

/-- `f` reads exactly `pre` and answers `a`: on `pre` followed by anything it answers `a` and leaves what
    followed; on every proper prefix of `pre` it fails with the reader's end-of-input error -/
def Consumes (f : Reader Bytes → Bytes → Outcome (α × Bytes)) (pre : Bytes) (a : α) : Prop :=
  (∀ e rest, f (cutRd e) (pre ++ rest) = .ok (a, rest)) ∧
    (∀ e k, k < pre.length → f (cutRd e) (pre.take k) = .err (.io e))

theorem Consumes.pure (a : α) : Consumes (fun _ r => .ok (a, r)) [] a :=
  ⟨fun _ _ => rfl, fun _ _ hk => nomatch hk⟩

theorem Consumes.bind {f : Reader Bytes → Bytes → Outcome (α × Bytes)} {g : Reader Bytes → α × Bytes → Outcome (β × Bytes)}
    {p1 p2 : Bytes} {a : α} {b : β} (hf : Consumes f p1 a) (hg : Consumes (fun rd r => g rd (a, r)) p2 b) :
    Consumes (fun rd r => (f rd r).bind (g rd)) (p1 ++ p2) b := by
  refine ⟨fun e rest => ?_, fun e k hk => ?_⟩
  · simp only [List.append_assoc, hf.1, Outcome.bind_ok, hg.1]
  · simp only [List.length_append] at hk
    by_cases k1 : k < p1.length
    · simp only [List.take_append_of_le_length (Nat.le_of_lt k1), hf.2 e k k1, Outcome.bind_err]
    · simp only [List.take_append, List.take_of_length_le (Nat.not_lt.mp k1), hf.1, Outcome.bind_ok]
      exact hg.2 e _ (by omega)

/-- `f` never reads ahead: a success on the flat reader consumed exactly a prefix of the input.  The premise is
    one run on `flatRd`; the conclusion speaks of every `cutRd e`, because the users ask what the same function
    does on other inputs, with another end-of-input error (a stream that ends, a stream that fails with `e`). -/
def Exact (f : Reader Bytes → Bytes → Outcome (α × Bytes)) : Prop :=
  ∀ bs a rest, f flatRd bs = .ok (a, rest) → ∃ pre, bs = pre ++ rest ∧ Consumes f pre a

theorem Exact.bind {f : Reader Bytes → Bytes → Outcome (α × Bytes)} {g : Reader Bytes → α × Bytes → Outcome (β × Bytes)}
    (hf : Exact f) (hg : ∀ a, Exact fun rd r => g rd (a, r)) : Exact fun rd r => (f rd r).bind (g rd) := by
  intro bs b rest h
  obtain ⟨⟨a, mid⟩, h1, h2⟩ := Outcome.bind_eq_ok.mp h
  obtain ⟨p1, rfl, c1⟩ := hf _ _ _ h1
  obtain ⟨p2, rfl, c2⟩ := hg a _ _ _ h2
  exact ⟨p1 ++ p2, (List.append_assoc ..).symm, c1.bind c2⟩

theorem Exact.pure (a : α) : Exact fun _ r => .ok (a, r) :=
  fun _ _ _ h => by cases h; exact ⟨[], rfl, Consumes.pure a⟩

theorem Exact.read (n : Nat) : Exact fun rd r => ofRead (rd.readExact n r) := by
  intro bs a rest h
  simp only [flatRd] at h
  split at h
  · rename_i hn
    cases h
    have hl : (bs.take n).length = n := List.length_take_of_le hn
    refine ⟨bs.take n, (List.take_append_drop n bs).symm, fun e rest' => ?_, fun e k hk => ?_⟩
    · simp [cutRd, ofRead, hl]
    · have : ¬ n ≤ ((bs.take n).take k).length := by simp only [List.length_take]; omega
      simp only [cutRd, this, if_false, ofRead]
  · cases h

theorem rdN_exact (n : Nat) (g : Bytes → Outcome (α × Bytes)) : Exact fun rd => rdN rd n g := by
  refine (Exact.read n).bind fun p => ?_
  dsimp only
  cases g p with
  | ok q => exact Exact.pure _
  | _ => exact fun _ _ _ h => nomatch h

theorem rdLV_exact : Exact rdLV := by
  simp only [funext fun rd => funext (rdLV_eq rd)]
  exact (rdN_exact 2 getU16).bind fun n => Exact.read n

theorem rdHeader_exact : Exact rdHeader := by
  simp only [funext fun rd => funext (rdHeader_eq rd)]
  refine (rdN_exact 2 getU16).bind fun v => ?_
  dsimp only
  refine (rdN_exact 2 getU16).bind fun o => ?_
  dsimp only
  exact (rdN_exact 4 getU32).bind fun i => Exact.pure (Header.mk (.ofNat v) (.ofNat o) i)

theorem rdItem_exact (cfg : LoopCfg) : Exact fun rd => rdItem rd cfg := by
  refine (rdN_exact 1 getU8).bind fun tag => ?_
  dsimp only
  by_cases hd : cfg.isDelim tag
  · simp only [if_pos hd]
    exact Exact.pure _
  · by_cases hv : cfg.isValue tag
    · simp only [if_neg hd, if_pos hv]
      refine rdLV_exact.bind fun n => ?_
      dsimp only
      exact rdLV_exact.bind fun b => Exact.pure (Item.value tag n b)
    · simp only [if_neg hd, if_neg hv]
      exact fun _ _ _ h => nomatch h

/-- a delimiter is one byte -/
theorem rdItem_flat_delim_inv {cfg : LoopCfg} {bs rest : Bytes} {tag : UInt8}
    (h : rdItem flatRd cfg bs = .ok (.delim tag, rest)) : bs = tag :: rest := by
  cases bs with
  | nil => cases h
  | cons t r =>
    simp only [rdItem, rdN_flat_u8, Outcome.bind_ok] at h
    split at h
    · cases h; rfl
    · split at h
      · simp only [Outcome.bind_eq_ok] at h
        obtain ⟨_, _, _, _, he⟩ := h
        cases he
      · cases h

/-- A successful loop run on the flat reader consumed exactly a prefix that ends with the tag `T` closing
    the loop, with any fuel that is enough, one unit per byte. -/
theorem driveLoop_consumes (cfg : LoopCfg) (m : Machine σ) (T : UInt8)
    (hT : ∀ st tag st', m.delim st tag = .ok (st', cfg.endTag) → tag = T) (fuel : Nat) :
    ∀ (bs : Bytes) (st : σ) (res : σ × Bytes), driveLoop flatRd cfg m fuel bs st = .ok res →
      ∃ pre, bs = pre ++ res.2 ∧ pre.getLast? = some T ∧
        ∀ f, pre.length ≤ f → Consumes (fun rd r => driveLoop rd cfg m f r st) pre res.1 := by
  induction fuel with
  | zero => intro bs st res h; cases h
  | succ n ih =>
    intro bs st res h
    simp only [driveLoop_succ, Outcome.bind_eq_ok] at h
    obtain ⟨⟨it, r1⟩, hx, ⟨st1, fin⟩, hq, hg⟩ := h
    obtain ⟨p0, rfl, c0⟩ := rdItem_exact cfg _ _ _ hx
    -- the first pass consumes `p0`; what the rest of the run consumes is appended to it
    have pass (f p2 a) (h2 : Consumes (fun rd r => if fin then .ok (st1, r) else driveLoop rd cfg m f r st1) p2 a) :
        Consumes (fun rd r => driveLoop rd cfg m (f + 1) r st) (p0 ++ p2) a := by
      simp only [driveLoop_succ]
      exact c0.bind (by simp only [hq, Outcome.bind_ok]; exact h2)
    -- an item is never zero bytes: on the empty input `rdItem` fails
    have hp0 : 0 < p0.length := by
      cases p0 with
      | nil => cases c0.1 .other []
      | cons _ _ => exact Nat.succ_pos _
    cases fin with
    | true =>
      cases hg
      -- the closing pass read a delimiter, one byte, which the machine answered with the end tag
      obtain ⟨tag, rfl, hd⟩ := Machine.feed_done hq
      obtain rfl : p0 = [tag] := List.append_cancel_right (rdItem_flat_delim_inv hx : p0 ++ r1 = [tag] ++ r1)
      refine ⟨[tag], rfl, by rw [hT _ _ _ hd]; rfl, fun f hf => ?_⟩
      obtain ⟨f, rfl⟩ := Nat.exists_eq_add_one_of_ne_zero (Nat.ne_of_gt hf)
      exact pass f [] st1 (Consumes.pure st1)
    | false =>
      obtain ⟨pre, hpre, hl, hc⟩ := ih r1 st1 res hg
      refine ⟨p0 ++ pre, by rw [hpre, List.append_assoc], by rw [List.getLast?_append, hl]; rfl, fun f hf => ?_⟩
      rw [List.length_append] at hf
      obtain ⟨f, rfl⟩ := Nat.exists_eq_add_one_of_ne_zero (show f ≠ 0 by omega)
      exact pass f pre res.1 (hc f (by omega))

theorem parseFlat_consumes (bs : Bytes) (r : Header × List Group) (rest : Bytes)
    (h : parseFlat bs = .ok (r, rest)) :
    ∃ pre, bs = pre ++ rest ∧ pre.getLast? = some 0x03 ∧
      ∀ fuel, pre.length ≤ fuel → Consumes (fun rd => parseWith rd syncLoop fuel) pre r := by
  simp only [parseFlat, parseWith_eq, Outcome.bind_eq_ok] at h
  obtain ⟨p, hh, q, hl, he⟩ := h
  cases he
  obtain ⟨p0, rfl, c0⟩ := rdHeader_exact _ _ _ hh
  obtain ⟨p1, hp1, hlast, c1⟩ := driveLoop_consumes syncLoop pMachine 0x03
    (fun _ _ _ h => UInt8.toNat_inj.mp (pMachine_delim_code h).symm) _ _ _ _ hl
  refine ⟨p0 ++ p1, by rw [hp1, List.append_assoc], by rw [List.getLast?_append, hlast]; rfl, fun fuel hf => ?_⟩
  simp only [funext fun rd => funext (parseWith_eq rd syncLoop fuel)]
  rw [← List.append_nil p1]
  rw [List.length_append] at hf
  refine c0.bind ?_
  dsimp only
  exact (c1 fuel (by omega)).bind (Consumes.pure (p.1, q.1.groups))

theorem parseCut_prefix (bs : Bytes) (r : Header × List Group) (rest : Bytes) (h : parseFlat bs = .ok (r, rest))
    (k : Nat) (hk : k < bs.length - rest.length) (e : IoKind) (fuel : Nat) (hf : k < fuel) :
    parseWith (cutRd e) syncLoop fuel (bs.take k) = .err (.io e) := by
  obtain ⟨pre, rfl, _, hpre⟩ := parseFlat_consumes bs r rest h
  simp only [List.length_append, Nat.add_sub_cancel] at hk
  rw [List.take_append_of_le_length (Nat.le_of_lt hk), ← (hpre (fuel + pre.length) (Nat.le_add_left ..)).2 e k hk]
  refine (parseWith_fuel_mono _ _ _ _ _ ?_).symm
  exact (parseWith_safe (cutRd_laws e) syncLoop fuel _ (by simp only [List.length_take]; omega)).ne.2

end Ipp
