/-
  Big-endian field round trips, by positional notation.
-/
import IppModel.Model.Basic
namespace Ipp

theorem be16_length (n : Nat) : (be16 n).length = 2 := rfl
theorem be32_length (u : UInt32) : (be32 u).length = 4 := rfl

/-- positional notation, four digits in base `b`: the digits rebuild the number, and the leading ones its quotients -/
theorem digits4 (b n : Nat) :
    n / (b * (b * b)) * b + n / (b * b) % b = n / (b * b) ∧
    n / (b * (b * b)) * (b * b) + n / (b * b) % b * b + n / b % b = n / b ∧
    n / (b * (b * b)) * (b * (b * b)) + n / (b * b) % b * (b * b) + n / b % b * b + n % b = n := by
  -- `m / b * b + m % b = m` at `n / (b * b)`, `n / b` and `n`; each sum is `b` times the one before plus a digit
  have h1 : n / (b * (b * b)) * b + n / (b * b) % b = n / (b * b) := by
    rw [Nat.mul_comm b, ← Nat.div_div_eq_div_mul]
    exact Nat.div_add_mod' _ b
  have h2 : n / (b * b) * b + n / b % b = n / b := by
    rw [← Nat.div_div_eq_div_mul]
    exact Nat.div_add_mod' _ b
  have h3 := Nat.div_add_mod' n b
  rw [← h1] at h2
  rw [← h2] at h3
  simp only [Nat.add_mul, Nat.mul_assoc] at h2 h3
  exact ⟨h1, h2, h3⟩

theorem unbe16_be16 (n : Nat) (h : n < 65536) : unbe16 (UInt8.ofNat (n / 256)) (UInt8.ofNat n) = n := by
  rw [unbe16, UInt8.toNat_ofNat_of_lt' (Nat.div_lt_of_lt_mul h), UInt8.toNat_ofNat']
  exact Nat.div_add_mod' n 256

theorem unbe32_be32 (u : UInt32) :
    unbe32 (UInt8.ofNat (u.toNat / 16777216)) (UInt8.ofNat (u.toNat / 65536)) (UInt8.ofNat (u.toNat / 256))
      (UInt8.ofNat u.toNat) = u := by
  rw [unbe32, UInt8.toNat_ofNat_of_lt' (Nat.div_lt_of_lt_mul u.toNat_lt), UInt8.toNat_ofNat', UInt8.toNat_ofNat',
    UInt8.toNat_ofNat']
  exact (congrArg UInt32.ofNat (digits4 256 u.toNat).2.2).trans UInt32.ofNat_toNat

theorem ofNat_unbe16_be16 (v : UInt16) :
    UInt16.ofNat (unbe16 (UInt8.ofNat (v.toNat / 256)) (UInt8.ofNat v.toNat)) = v := by
  rw [unbe16_be16 _ v.toNat_lt]
  exact UInt16.ofNat_toNat

end Ipp
