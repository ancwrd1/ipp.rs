/-
  What the parser's machine does with one token.  The value decoder returns a flat value or `InvalidData`, never
  a panic (`decodeValue_sat`).  `parse_value` is a name step and a value tail (`nameStep`, `valueTail`,
  `parseValue_eq`; `TailStep` lists the ways the tail succeeds; `parseValue_sat` puts the two together).  A delimiter is
  answered with its own code (`pMachine_delim_code`).
-/
import IppModel.Model.Loop
import IppModel.Lemmas.Outcome
namespace Ipp
open Gen

/-- what the decoder may answer: a value without nesting, or `InvalidData` -/
abbrev Decoded (x : Outcome Value) : Prop := x.Sat (fun v => depth v = 1) (· = .io .invalidData)

variable {E : Err → Prop} {d : Bytes} {n : Nat}

/-- stated so that the getters chain: the `n` bytes left over are what the next one asks for -/
theorem getU8_sat (h : n + 1 ≤ d.length) : (getU8 d).Sat (fun p => n ≤ p.2.length) E :=
  match d, h with
  | _ :: _, h => Nat.le_of_add_le_add_right h

theorem getU16_sat (h : n + 2 ≤ d.length) : (getU16 d).Sat (fun p => n ≤ p.2.length) E :=
  match d, h with
  | _ :: _ :: _, h => Nat.le_of_add_le_add_right h

theorem getU32_sat (h : n + 4 ≤ d.length) : (getU32 d).Sat (fun p => n ≤ p.2.length) E :=
  match d, h with
  | _ :: _ :: _ :: _ :: _, h => Nat.le_of_add_le_add_right h

theorem checkLen_sat (d : Bytes) (n : Nat) : (checkLen d n).Sat (fun _ => n ≤ d.length) (· = .io .invalidData) := by
  unfold checkLen
  split
  · rfl
  · exact Nat.le_of_not_lt ‹_›

theorem getLenString_sat (d : Bytes) : (getLenString d).Sat (fun _ => True) (· = .io .invalidData) :=
  (checkLen_sat d 2).bind fun _ h => (getU16_sat h).bind fun p _ => (checkLen_sat p.2 p.1).bind fun _ h => by
    unfold sliceAdvance
    rw [if_pos h]
    trivial

theorem decodeLang_sat (k : LangKind) (d : Bytes) : Decoded (decodeLang k d) :=
  (getLenString_sat d).bind fun p _ => (getLenString_sat p.2).bind fun _ _ => rfl

theorem decodeDateTime_sat (h : 11 ≤ d.length) : Decoded (decodeDateTime d) :=
  (getU16_sat h).bind fun _ h => (getU8_sat h).bind fun _ h => (getU8_sat h).bind fun _ h =>
  (getU8_sat h).bind fun _ h => (getU8_sat h).bind fun _ h => (getU8_sat h).bind fun _ h =>
  (getU8_sat h).bind fun _ h => (getU8_sat h).bind fun _ h => (getU8_sat h).bind fun _ h =>
  (getU8_sat h).bind fun _ _ => rfl

theorem decodeKnown_sat (t : ValueTag) (tag : UInt8) (d : Bytes) (h : minLen t ≤ d.length) :
    Decoded (decodeKnown t tag d) := by
  cases t
  case TextWithLanguage | NameWithLanguage => exact decodeLang_sat _ d
  case Integer | Enum => exact (getU32_sat h).bind fun _ _ => rfl
  case Boolean => exact (getU8_sat h).bind fun _ _ => rfl
  case RangeOfInteger => exact (getU32_sat h).bind fun _ h => (getU32_sat h).bind fun _ _ => rfl
  case Resolution =>
    exact (getU32_sat h).bind fun _ h => (getU32_sat h).bind fun _ h => (getU8_sat h).bind fun _ _ => rfl
  case DateTime => exact decodeDateTime_sat h
  all_goals rfl

theorem decodeValue_sat (tag : UInt8) (d : Bytes) : Decoded (decodeValue tag d) := by
  unfold decodeValue
  split
  · rfl
  · exact (checkLen_sat d _).bind fun _ h => decodeKnown_sat _ tag d h

/-- the state after the name of a token has been handled -/
def nameStep (s : PState) (name : Bytes) : PState :=
  if name.isEmpty then s else { s.addLastAttribute with lastName := some name }

/-- what `parse_value` does with the decoded value, after the name has been handled -/
def valueTail (s1 : PState) (tag : UInt8) (v : Value) : Outcome PState :=
  if tag = begBracket.u8 then
    if isEmptyOther v then .ok { s1 with context := [] :: s1.context } else .err .invalidCollection
  else if tag = endBracket.u8 then
    if isEmptyOther v then
      match s1.context with
      | arr :: top :: rest => .ok { s1 with context := (top ++ [.coll (collect arr)]) :: rest }
      | [_] => .ok { s1 with context := [] }
      | [] => .ok s1
    else .err .invalidCollection
  else
    match s1.context with
    | top :: rest => .ok { s1 with context := (top ++ [v]) :: rest }
    | [] => .ok s1

theorem parseValue_eq (s : PState) (tag : UInt8) (name body : Bytes) :
    s.parseValue tag name body = (decodeValue tag body).bind (valueTail (nameStep s name) tag) := by
  unfold PState.parseValue
  cases decodeValue tag body <;> rfl

/-- the ways `valueTail` succeeds -/
inductive TailStep (s1 : PState) (tag : UInt8) (v : Value) : PState → Prop
  | opened : tag ≠ endBracket.u8 → TailStep s1 tag v { s1 with context := [] :: s1.context }
  | closed (arr top rest) : s1.context = arr :: top :: rest →
      TailStep s1 tag v { s1 with context := (top ++ [.coll (collect arr)]) :: rest }
  | closedLast (a) : s1.context = [a] → TailStep s1 tag v { s1 with context := [] }
  | idle : s1.context = [] → TailStep s1 tag v s1
  | pushed (top rest) : tag ≠ endBracket.u8 → s1.context = top :: rest →
      TailStep s1 tag v { s1 with context := (top ++ [v]) :: rest }

theorem valueTail_sat (s1 : PState) (tag : UInt8) (v : Value) :
    (valueTail s1 tag v).Sat (TailStep s1 tag v) fun _ => True := by
  unfold valueTail
  split
  · split
    · exact .opened (by rw [‹tag = _›]; decide)
    · trivial
  · split
    · split
      · split
        · exact .closed _ _ _ ‹_›
        · exact .closedLast _ ‹_›
        · exact .idle ‹_›
      · trivial
    · split
      · exact .pushed _ _ ‹_› ‹_›
      · exact .idle ‹_›

/-- `parse_value` decodes a flat value and takes one of the tail steps with it -/
theorem parseValue_sat (s : PState) (tag : UInt8) (name body : Bytes) :
    (s.parseValue tag name body).Sat (fun s' => ∃ v, depth v = 1 ∧ TailStep (nameStep s name) tag v s') fun _ => True := by
  rw [parseValue_eq]
  exact ((decodeValue_sat tag body).imp (fun _ h => h) fun _ _ => trivial).bind fun v hv =>
    (valueTail_sat _ tag v).imp (fun _ ht => ⟨v, hv, ht⟩) fun _ h => h

theorem parseValue_safe (s : PState) (tag : UInt8) (name body : Bytes) : (s.parseValue tag name body).safe :=
  (parseValue_sat s tag name body).safe

/-- the code the machine answers a delimiter with is the tag -/
theorem pMachine_delim_code {st st' : PState} {tag : UInt8} {code : Nat}
    (h : pMachine.delim st tag = .ok (st', code)) : code = tag.toNat := by
  simp only [pMachine, PState.parseDelimiter] at h
  cases hfc : DelimiterTag.fromCode tag.toNat with
  | none => simp [hfc] at h
  | some t =>
    simp only [hfc, Except.ok.injEq, Prod.mk.injEq] at h
    rw [← h.2]
    simpa using List.find?_some hfc

end Ipp
