/-
  Operation builders in closed form: what `newRequest`, `Request.add`, `withUserName`, `addJobAttrs` and the
  fold over builder calls produce; hence every builder yields the request its arguments describe
  (`buildOp_eq_request`), given that the library's names and codes are the registry's (`NamesPin`, `CodesPin`).
-/
import IppModel.Spec.Requests
import IppModel.Lemmas.SMap
namespace Ipp.Builders
open Ipp.Gen Ipp.Spec

theorem lastSome_cons {α} (x : Option α) (r : List (Option α)) : lastSome (x :: r) = (lastSome r).or x := by
  simp only [lastSome]
  cases lastSome r <;> rfl

/-- a setter that overwrites: the last call wins -/
theorem foldl_overwrite {σ κ β} {step : σ → κ → σ} {get : σ → Option β} {f : κ → Option β}
    (h : ∀ s c, get (step s c) = (f c).or (get s)) (s : σ) (cs : List κ) :
    get (cs.foldl step s) = (lastSome (cs.map f)).or (get s) := by
  induction cs generalizing s with
  | nil => rfl
  | cons c r ih => rw [List.foldl_cons, ih, h, List.map_cons, lastSome_cons, Option.or_assoc]

/-- a setter that appends: the calls are concatenated -/
theorem foldl_extend {σ κ β} {step : σ → κ → σ} {get : σ → List β} {f : κ → List β}
    (h : ∀ s c, get (step s c) = get s ++ f c) (s : σ) (cs : List κ) :
    get (cs.foldl step s) = get s ++ (cs.map f).flatten := by
  induction cs generalizing s with
  | nil => exact (List.append_nil _).symm
  | cons c r ih => rw [List.foldl_cons, ih, h, List.map_cons, List.flatten_cons, List.append_assoc]

theorem run_eq_summary (calls : List Call) :
    (BState.run calls).user = (summary calls).user ∧ (BState.run calls).title = (summary calls).title ∧
    (BState.run calls).attrs = (summary calls).jobAttrs ∧ (BState.run calls).isLast = (summary calls).last ∧
    (BState.run calls).requested = (summary calls).requested := by
  refine ⟨?_, ?_, ?_, ?_, ?_⟩
  · refine (foldl_overwrite (get := BState.user) ?_ _ _).trans Option.or_none
    intro s c
    cases c <;> rfl
  · refine (foldl_overwrite (get := BState.title) ?_ _ _).trans Option.or_none
    intro s c
    cases c <;> rfl
  · refine foldl_extend (get := BState.attrs) ?_ _ _
    intro s c
    cases c <;> simp only [BState.step, List.append_nil]
  -- `isLast` always holds a value: read through `some`, it is an overwriting setter like the others
  · refine Option.some.inj ((foldl_overwrite (get := fun b : BState => some b.isLast) ?_ _ _).trans Option.or_some)
    intro s c
    cases c <;> rfl
  · refine foldl_extend (get := BState.requested) ?_ _ _
    intro s c
    cases c <;> simp only [BState.step, List.append_nil]

theorem Request.ext' {a b : Request} (h1 : a.header = b.header) (h2 : a.groups = b.groups) (h3 : a.payload = b.payload) :
    a = b := by
  cases a
  cases b
  cases h1
  cases h2
  cases h3
  rfl

/-- a request with exactly one group, the operation group, holding the pairs `as` inserted in order -/
def R (hd : Header) (as : List (Bytes × Value)) (pl : Bytes) : Request :=
  ⟨hd, [⟨.OperationAttributes, sinsertAll as []⟩], pl⟩

/-- the same plus a job group when there are job attributes -/
def RJ (hd : Header) (as js : List (Bytes × Value)) (pl : Bytes) : Request :=
  ⟨hd, ⟨.OperationAttributes, sinsertAll as []⟩ :: (if js.isEmpty then [] else [⟨.JobAttributes, sinsertAll js []⟩]), pl⟩

/-- the pairs every constructor starts with: charset, language and, if there is a target, printer-uri -/
def base (uri : Option Uri) : List (Bytes × Value) :=
  [(A.ATTRIBUTES_CHARSET, .str .charset utf8Lit), (A.ATTRIBUTES_NATURAL_LANGUAGE, .str .naturalLanguage enLit)] ++
    (match uri with
     | some u => [(A.PRINTER_URI, .str .uri (renderUri (canonUri u)))]
     | none => [])

theorem newRequest_eq (ver : UInt16) (op : Operation) (uri : Option Uri) :
    newRequest ver op uri = R ⟨ver, UInt16.ofNat op.code, UInt32.ofNat newRequestId⟩ (base uri) [] := by
  cases uri <;> rfl

theorem newResponse_eq (ver : UInt16) (st : StatusCode) (id : UInt32) :
    newResponse ver st id = R ⟨ver, UInt16.ofNat st.code, id⟩ (base none) [] := rfl

theorem add_R (hd : Header) (as : List (Bytes × Value)) (pl : Bytes) (n : Bytes) (v : Value) :
    (R hd as pl).add .OperationAttributes n v = R hd (as ++ [(n, v)]) pl := by
  unfold R
  rw [sinsertAll_append]
  rfl

theorem withUserName_R (u : Option Bytes) (hd : Header) (as : List (Bytes × Value)) (pl : Bytes) :
    withUserName u (R hd as pl) = R hd (as ++ optAttr A.REQUESTING_USER_NAME (u.map (.str .nameWithoutLanguage))) pl := by
  cases u with
  | none => exact congrArg (R hd · pl) (List.append_nil as).symm
  | some s => exact add_R ..

theorem payload_R (hd : Header) (as : List (Bytes × Value)) (pl p : Bytes) :
    ({ R hd as pl with payload := p } : Request) = R hd as p := rfl

theorem addJobAttrs_two (hd : Header) (m0 m js : List (Bytes × Value)) (pl : Bytes) :
    addJobAttrs js ⟨hd, [⟨.OperationAttributes, m0⟩, ⟨.JobAttributes, m⟩], pl⟩ =
      ⟨hd, [⟨.OperationAttributes, m0⟩, ⟨.JobAttributes, sinsertAll js m⟩], pl⟩ := by
  induction js generalizing m with
  | nil => rfl
  -- one `add` evaluates: it passes over the operation group and the job group takes the pair
  | cons a r ih => exact ih (sinsert a.1 a.2 m)

theorem addJobAttrs_R (hd : Header) (as js : List (Bytes × Value)) (pl : Bytes) :
    addJobAttrs js (R hd as pl) = RJ hd as js pl := by
  cases js with
  | nil => rfl
  | cons a r => exact addJobAttrs_two hd _ (sinsert a.1 a.2 []) r pl

theorem payload_RJ (hd : Header) (as js : List (Bytes × Value)) (pl p : Bytes) :
    ({ RJ hd as js pl with payload := p } : Request) = RJ hd as js p := rfl

/-- The library's attribute names and operation codes are the registry's.  Hypotheses here, proved where they
    are used (C10's `names_pin`, `op_codes_pin`, by evaluation), so that the proofs below rewrite with them and
    never compare byte strings themselves. -/
abbrev NamesPin : Prop :=
    A.ATTRIBUTES_CHARSET = N.attributes_charset ∧ A.ATTRIBUTES_NATURAL_LANGUAGE = N.attributes_natural_language ∧
    A.PRINTER_URI = N.printer_uri ∧ A.REQUESTING_USER_NAME = N.requesting_user_name ∧ A.JOB_NAME = N.job_name ∧
    A.JOB_ID = N.job_id ∧ A.LAST_DOCUMENT = N.last_document ∧ A.REQUESTED_ATTRIBUTES = N.requested_attributes ∧
    utf8Lit = N.utf8 ∧ enLit = N.en

abbrev CodesPin : Prop :=
    Operation.PrintJob.code = opCode .printJob ∧ Operation.CreateJob.code = opCode .createJob ∧
    Operation.SendDocument.code = opCode .sendDocument ∧ Operation.CancelJob.code = opCode .cancelJob ∧
    Operation.GetJobAttributes.code = opCode .getJobAttributes ∧ Operation.GetJobs.code = opCode .getJobs ∧
    Operation.GetPrinterAttributes.code = opCode .getPrinterAttributes ∧ Operation.PurgeJobs.code = opCode .purgeJobs ∧
    Operation.CupsGetPrinters.code = opCode .cupsGetPrinters ∧ Operation.CupsDeletePrinter.code = opCode .cupsDeletePrinter

theorem addIf_R (c : Bool) (hd : Header) (as : List (Bytes × Value)) (pl : Bytes) (n : Bytes) (v : Value) :
    (if c then R hd as pl else R hd (as ++ [(n, v)]) pl) = R hd (as ++ if c then [] else [(n, v)]) pl := by
  cases c <;> simp

/-- the declarative request in the same closed form -/
theorem request_eq (k : OpKind) (uri : Uri) (jobId : UInt32) (payload : Bytes) (sm : Summary) :
    request k uri jobId payload sm =
      RJ ⟨0x0101, UInt16.ofNat (opCode k), 1⟩ (opAttrs k uri jobId sm) (if hasJobAttrs k then sm.jobAttrs else [])
        (if hasPayload k then payload else []) := by
  unfold request RJ
  cases hasJobAttrs k
  · rfl
  · cases sm.jobAttrs <;> rfl

/-- every builder yields the request its arguments describe, whatever payload it is handed (an operation
    without a document ignores it) -/
theorem buildOp_eq_request (hn : NamesPin) (hc : CodesPin) (k : OpKind) (uri : Uri) (jobId : UInt32) (payload : Bytes)
    (calls : List Call) :
    buildOp k uri jobId payload calls = request k uri jobId payload (summary calls) := by
  obtain ⟨hu, ht, ha, hl, hr⟩ := run_eq_summary calls
  obtain ⟨n1, n2, n3, n4, n5, n6, n7, n8, n9, n10⟩ := hn
  obtain ⟨c1, c2, c3, c4, c5, c6, c7, c8, c9, c10⟩ := hc
  have hid : UInt32.ofNat newRequestId = 1 := rfl
  have hv : v11 = 0x0101 := rfl
  rw [request_eq]
  simp only [buildOp, hu, ht, ha, hl, hr]
  generalize summary calls = sm
  obtain ⟨user, title, attrs, isLast, requested⟩ := sm
  -- Print-Job and Create-Job match on the title; once it is split, every arm of `buildOp` rewrites to its
  -- closed form under the registry's names and codes, and what is left per operation is evaluation
  cases title <;>
    simp only [printJob, getPrinterAttributes, createJob, sendDocument, purgeJobs, cancelJob, getJobAttributes, getJobs,
      cupsGetPrinters, cupsDeletePrinter, newRequest_eq, withUserName_R, add_R, addIf_R, addJobAttrs_R, payload_R,
      payload_RJ, base, opAttrs, opAttrs.A_charset, opAttrs.A_language, opAttrs.A_printerUri, opAttrs.A_user,
      opAttrs.A_jobName, opAttrs.A_jobId, opAttrs.A_lastDocument, opAttrs.A_requested, optAttr, Option.map_none,
      List.append_nil, n1, n2, n3, n4, n5, n6, n7, n8, n9, n10, c1, c2, c3, c4, c5, c6, c7, c8, c9, c10, hid, hv] <;>
    cases k <;>
    rfl

theorem build_eq_spec (hn : NamesPin) (hc : CodesPin) (k : OpKind) (uri : Uri) (jobId : UInt32) (payload : Bytes)
    (calls : List Call) :
    buildOp k uri jobId (if hasPayload k then payload else []) calls = request k uri jobId payload (summary calls) := by
  rw [buildOp_eq_request hn hc]
  unfold request
  cases hasPayload k <;> rfl

theorem new_request_spec (hn : NamesPin) (ver : UInt16) (op : Operation) (uri : Option Uri) :
    (newRequest ver op uri).header = ⟨ver, UInt16.ofNat op.code, 1⟩ ∧
    (newRequest ver op uri).groups =
      [⟨.OperationAttributes, sinsertAll
        ([(N.attributes_charset, .str .charset N.utf8), (N.attributes_natural_language, .str .naturalLanguage N.en)] ++
         (match uri with
          | some u => [(N.printer_uri, .str .uri (renderUri (canonUri u)))]
          | none => [])) []⟩] ∧
    (newRequest ver op uri).payload = [] := by
  obtain ⟨n1, n2, n3, _, _, _, _, _, n9, n10⟩ := hn
  rw [newRequest_eq, ← n1, ← n2, ← n3, ← n9, ← n10]
  cases uri <;> exact ⟨rfl, rfl, rfl⟩

theorem new_response_spec (hn : NamesPin) (ver : UInt16) (st : StatusCode) (id : UInt32) :
    (newResponse ver st id).header = ⟨ver, UInt16.ofNat st.code, id⟩ ∧
    (newResponse ver st id).groups =
      [⟨.OperationAttributes, sinsertAll
        [(N.attributes_charset, .str .charset N.utf8), (N.attributes_natural_language, .str .naturalLanguage N.en)] []⟩] ∧
    (newResponse ver st id).payload = [] := by
  obtain ⟨n1, n2, _, _, _, _, _, _, n9, n10⟩ := hn
  rw [newResponse_eq, ← n1, ← n2, ← n9, ← n10]
  exact ⟨rfl, rfl, rfl⟩

end Ipp.Builders
