/-
  The add-history theorem `foldl_addHistory`: folding `addAttr` over a history from any start state gives the
  declaratively specified `addHistory`.  `addAttr_append` (`add` searches from the left) carries the induction,
  which runs from the right end of the history (`snoc_induction`): one more addition to the existing groups
  (`existingAfter_snoc`), to the kinds first used (`newKinds_snoc`), and the step `addHistory_step`.
-/
import IppModel.Spec.Container
import IppModel.Lemmas.SMap
namespace Ipp.AddHist
open Ipp.Gen Ipp.Spec

theorem snoc_induction {α} {motive : List α → Prop} (nil : motive [])
    (snoc : ∀ l a, motive l → motive (l ++ [a])) (l : List α) : motive l := by
  rw [← l.reverse_reverse]
  induction l.reverse with
  | nil => exact nil
  | cons a r ih =>
    rw [List.reverse_cons]
    exact snoc _ a ih

/-- `add` looks for its group from the left -/
theorem addAttr_append (t : DelimiterTag) (n : Bytes) (v : Value) (l1 l2 : List Group) :
    addAttr t n v (l1 ++ l2) =
      if l1.any (fun g => g.tag = t) then addAttr t n v l1 ++ l2 else l1 ++ addAttr t n v l2 := by
  induction l1 with
  | nil => rfl
  | cons g r ih =>
    by_cases hg : g.tag = t
    · simp [addAttr, hg]
    · simp only [List.cons_append, addAttr, hg, ↓reduceIte, ih, List.any_cons, decide_false, Bool.false_or]
      split <;> rfl

/-- addition to a duplicate-free, kind-indexed list of groups -/
theorem addAttr_map (m : DelimiterTag → List (Bytes × Value)) (t : DelimiterTag) (n : Bytes) (v : Value)
    (l : List DelimiterTag) (hl : l.Nodup) :
    addAttr t n v (l.map fun a => ⟨a, m a⟩) =
      l.map (fun a => ⟨a, if a = t then sinsert n v (m a) else m a⟩) ++ if t ∈ l then [] else [⟨t, [(n, v)]⟩] := by
  induction l with
  | nil => rfl
  | cons x r ih =>
    obtain ⟨hxr, hr⟩ := List.nodup_cons.mp hl
    by_cases hx : x = t
    · -- `t` heads the list and, the list being duplicate-free, occurs nowhere else in it
      subst hx
      rw [List.map_cons, List.map_cons, addAttr, if_pos rfl, if_pos rfl, if_pos List.mem_cons_self, List.append_nil]
      refine congrArg _ (List.map_congr_left fun a ha => ?_)
      rw [if_neg fun (e : a = x) => hxr (e ▸ ha)]
    · simp [addAttr, hx, Ne.symm hx, ih hr]

theorem sinsertAll_addsFor_snoc (a : DelimiterTag) (ops : List AddOp) (t : DelimiterTag) (n : Bytes) (v : Value)
    (m : List (Bytes × Value)) :
    sinsertAll (addsFor a (ops ++ [(t, n, v)])) m =
      if a = t then sinsert n v (sinsertAll (addsFor a ops) m) else sinsertAll (addsFor a ops) m := by
  rw [addsFor, List.filter_append, List.map_append, sinsertAll_append, List.filter_cons]
  by_cases h : a = t
  · rw [if_pos h, decide_eq_true h.symm]
    rfl
  · rw [if_neg h, decide_eq_false (Ne.symm h)]
    rfl

theorem existingAfter_tags (before gs : List Group) (ops : List AddOp) :
    (existingAfter before gs ops).map (·.tag) = gs.map (·.tag) := by
  induction gs generalizing before with
  | nil => rfl
  | cons g rest ih =>
    simp only [existingAfter, List.map_cons, ih]
    split <;> rfl

theorem existingAfter_any (before gs : List Group) (ops : List AddOp) (t : DelimiterTag) :
    (existingAfter before gs ops).any (fun x => x.tag = t) = gs.any (fun x => x.tag = t) := by
  have := congrArg (List.any · (· = t)) (existingAfter_tags before gs ops)
  simpa only [List.any_map, Function.comp_def] using this

/-- one more addition: the first group of its kind takes it, unless an earlier group shadows it -/
theorem existingAfter_snoc (before gs : List Group) (ops : List AddOp) (t : DelimiterTag) (n : Bytes) (v : Value) :
    existingAfter before gs (ops ++ [(t, n, v)]) =
      if before.any (fun x => x.tag = t) || !gs.any (fun x => x.tag = t) then existingAfter before gs ops
      else addAttr t n v (existingAfter before gs ops) := by
  induction gs generalizing before with
  | nil => exact (if_pos (Bool.or_true _)).symm
  | cons g rest ih =>
    simp only [existingAfter, ih, sinsertAll_addsFor_snoc, List.any_append, List.any_cons, List.any_nil, Bool.or_false]
    by_cases hg : g.tag = t
    · -- the head group is of the kind: it takes the addition unless a group in `before` shadows it
      subst hg
      by_cases hb : before.any (fun x => decide (x.tag = g.tag)) <;> simp [hb, addAttr]
    · -- another kind: the head group stays as it is and the addition is looked for in `rest`
      simp only [hg, decide_false, if_false, Bool.or_false, Bool.false_or, addAttr, apply_ite Group.tag, ite_self]
      exact apply_ite (List.cons _) _ _ _

theorem existingAfter_nil_ops (before gs : List Group) : existingAfter before gs [] = gs := by
  induction gs generalizing before with
  | nil => rfl
  | cons g rest ih =>
    rw [existingAfter, ih]
    split <;> rfl

theorem newKinds_snoc (gs : List Group) (ops : List AddOp) (o : AddOp) :
    newKinds gs (ops ++ [o]) =
      if (newKinds gs ops).contains o.1 || gs.any (fun g => g.tag = o.1) then newKinds gs ops
      else newKinds gs ops ++ [o.1] := by
  unfold newKinds
  rw [List.map_append, List.foldl_append]
  rfl

theorem mem_newKinds (gs : List Group) (ops : List AddOp) (t : DelimiterTag) :
    t ∈ newKinds gs ops ↔ t ∈ ops.map (·.1) ∧ gs.any (fun g => g.tag = t) = false := by
  induction ops using snoc_induction with
  | nil => exact ⟨nofun, fun h => nomatch h.1⟩
  | snoc ops o ih =>
    rw [newKinds_snoc, List.map_append, List.mem_append, List.map_singleton, List.mem_singleton, or_and_right, ← ih]
    split
    · rename_i h
      refine ⟨Or.inl, fun h' => h'.elim id ?_⟩
      rintro ⟨rfl, ht⟩
      simpa only [ht, Bool.or_false, List.contains_iff_mem] using h
    · rename_i h
      simp only [Bool.or_eq_true, not_or, Bool.not_eq_true] at h
      rw [List.mem_append, List.mem_singleton]
      exact or_congr_right ⟨fun e => ⟨e, e ▸ h.2⟩, And.left⟩

theorem newKinds_nodup (gs : List Group) (ops : List AddOp) : (newKinds gs ops).Nodup := by
  induction ops using snoc_induction with
  | nil => exact List.nodup_nil
  | snoc ops o ih =>
    rw [newKinds_snoc]
    split
    · exact ih
    · rename_i h
      simp only [Bool.or_eq_true, not_or, List.contains_iff_mem] at h
      exact (List.perm_append_singleton _ _).nodup_iff.mpr (List.nodup_cons.mpr ⟨h.1, ih⟩)

theorem addsFor_eq_nil (t : DelimiterTag) (ops : List AddOp) (h : t ∉ ops.map (·.1)) : addsFor t ops = [] := by
  simp only [addsFor, List.map_eq_nil_iff, List.filter_eq_nil_iff, decide_eq_true_eq]
  exact fun o ho e => h (List.mem_map.mpr ⟨o, ho, e⟩)

theorem addHistory_step (gs : List Group) (ops : List AddOp) (o : AddOp) :
    addAttr o.1 o.2.1 o.2.2 (addHistory gs ops) = addHistory gs (ops ++ [o]) := by
  obtain ⟨t, n, v⟩ := o
  simp only [addHistory, addAttr_append, existingAfter_any, existingAfter_snoc, newKinds_snoc, List.any_nil,
    Bool.false_or, sinsertAll_addsFor_snoc]
  cases hany : gs.any (fun x => decide (x.tag = t))
  · -- a kind the start does not have: the existing groups stay, the addition goes to the new ones
    simp only [Bool.false_eq_true, ↓reduceIte, Bool.not_false, Bool.or_false, List.contains_iff_mem]
    rw [addAttr_map _ t n v _ (newKinds_nodup gs ops)]
    split
    · rw [List.append_nil]
    · rename_i hn
      have : addsFor t ops = [] := addsFor_eq_nil t ops fun hm => hn ((mem_newKinds gs ops t).mpr ⟨hm, hany⟩)
      simp [this, sinsertAll, sinsert]
  · -- a kind of the start: its first group takes the addition, the new groups are of other kinds
    simp only [↓reduceIte, Bool.not_true, Bool.or_true, Bool.false_eq_true]
    congr 1
    refine List.map_congr_left fun a ha => ?_
    rw [if_neg]
    rintro rfl
    rw [((mem_newKinds gs ops a).mp ha).2] at hany
    cases hany

theorem addHistory_nil (gs : List Group) : addHistory gs [] = gs := by
  rw [addHistory, existingAfter_nil_ops]
  exact List.append_nil gs

theorem foldl_addHistory (gs : List Group) (ops : List AddOp) :
    ops.foldl (fun g o => addAttr o.1 o.2.1 o.2.2 g) gs = addHistory gs ops := by
  induction ops using snoc_induction with
  | nil => exact (addHistory_nil gs).symm
  | snoc ops o ih =>
    rw [List.foldl_append, ih]
    exact addHistory_step gs ops o

/-- first-use order with some kinds left out is the first-use order, filtered -/
theorem foldl_firstUse_filter (e : DelimiterTag → Bool) (ts acc : List DelimiterTag) :
    ts.foldl (fun acc t => if acc.contains t || e t then acc else acc ++ [t]) (acc.filter (!e ·)) =
      (ts.foldl (fun acc t => if acc.contains t then acc else acc ++ [t]) acc).filter (!e ·) := by
  induction ts generalizing acc with
  | nil => rfl
  | cons t r ih =>
    simp only [List.foldl_cons]
    rw [← ih]
    congr 1
    by_cases ha : t ∈ acc <;> cases he : e t <;> simp [ha, he, List.filter_append]

end Ipp.AddHist
