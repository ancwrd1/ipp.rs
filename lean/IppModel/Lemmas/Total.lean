/-
  The loop rule, and totality (C02) as its first use.  `ReaderLaws` is all the rule asks of a reader;
  every reader function leaves the reader smaller by what it read (`Shrinks`, `rdItem_shrinks`);
  `driveLoop_pays` says that a potential which each pass raises by at most `c` per byte read is paid for by the
  bytes read; with potential 0 it is totality: no panic, and no exhausted fuel when the fuel exceeds the bytes the
  reader can still deliver.  The flat reader `cutRd e` is the first lawful one.
-/
import IppModel.Lemmas.LoopStep
import IppModel.Lemmas.ParseStep
namespace Ipp
open Gen

/-- all the loop rule asks of a reader: `size` bounds the bytes it can still deliver; a `read_exact` of `n`
    returns exactly `n` bytes (`len`) and they are paid for out of `size` (`dec`) -/
structure ReaderLaws {ρ : Type} (rd : Reader ρ) (size : ρ → Nat) : Prop where
  len : ∀ n r bs r', rd.readExact n r = .ok (bs, r') → bs.length = n
  dec : ∀ n r bs r', rd.readExact n r = .ok (bs, r') → size r' + n ≤ size r

variable {ρ σ α : Type}

/-- neither a panic nor exhausted fuel, and a result leaves a reader smaller by at least `n` -/
abbrev Shrinks (size : ρ → Nat) (n : Nat) (r : ρ) (x : Outcome (α × ρ)) : Prop :=
  x.Sat (fun p => size p.2 + n ≤ size r) (fun _ => True)

section laws
variable {rd : Reader ρ} {size : ρ → Nat} (L : ReaderLaws rd size)
include L

/-- the laws as one fact about the outcome of a read -/
theorem ReaderLaws.read (n : Nat) (r : ρ) :
    (ofRead (rd.readExact n r)).Sat (fun p => p.1.length = n ∧ size p.2 + n ≤ size r) fun _ => True := by
  cases h : rd.readExact n r with
  | error k => trivial
  | ok p => exact ⟨L.len _ _ _ _ h, L.dec _ _ _ _ h⟩

theorem rdN_shrinks (n : Nat) (g : Bytes → Outcome (α × Bytes)) {P : α × Bytes → Prop}
    (hg : ∀ bs, n ≤ bs.length → (g bs).Sat P fun _ => True) (r : ρ) : Shrinks size n r (rdN rd n g r) :=
  Outcome.Sat.bind (L.read n r) fun p ⟨hl, hd⟩ => Outcome.Sat.bind (hg p.1 (Nat.le_of_eq hl.symm)) fun _ _ => hd

/-- a name or a value costs the reader its two length bytes and its bytes -/
theorem rdLV_shrinks (r : ρ) : (rdLV rd r).Sat (fun p => size p.2 + (2 + p.1.length) ≤ size r) (fun _ => True) := by
  rw [rdLV_eq]
  refine Outcome.Sat.bind (rdN_shrinks L 2 getU16 (fun _ => getU16_sat) r) fun p (hp : size p.2 + 2 ≤ size r) => ?_
  refine (L.read p.1 p.2).imp (fun q ⟨hl, hd⟩ => ?_) fun _ h => h
  show size q.2 + (2 + q.1.length) ≤ size r
  omega

theorem rdHeader_shrinks (r : ρ) : Shrinks size 8 r (rdHeader rd r) := by
  rw [rdHeader_eq]
  refine Outcome.Sat.bind (rdN_shrinks L 2 getU16 (fun _ => getU16_sat) r) fun v (hv : size v.2 + 2 ≤ size r) =>
    Outcome.Sat.bind (rdN_shrinks L 2 getU16 (fun _ => getU16_sat) v.2) fun o (ho : size o.2 + 2 ≤ size v.2) =>
    Outcome.Sat.bind (rdN_shrinks L 4 getU32 (fun _ => getU32_sat) o.2) fun i (hi : size i.2 + 4 ≤ size o.2) => ?_
  show size i.2 + 8 ≤ size r
  omega

theorem rdItem_shrinks (cfg : LoopCfg) (r : ρ) :
    (rdItem rd cfg r).Sat (fun p => size p.2 + p.1.wireLen ≤ size r) fun _ => True := by
  refine Outcome.Sat.bind (rdN_shrinks L 1 getU8 (fun _ => getU8_sat) r) fun p (h0 : size p.2 + 1 ≤ size r) => ?_
  split
  · exact h0
  · split
    · refine Outcome.Sat.bind (rdLV_shrinks L p.2) fun n hn => Outcome.Sat.bind (rdLV_shrinks L n.2) fun b hb => ?_
      show size b.2 + (5 + n.1.length + b.1.length) ≤ size r
      omega
    · trivial

variable (cfg : LoopCfg) (m : Machine σ) (Φ : σ → Nat) (c : Nat)
  (hd : ∀ st tag st' code, m.delim st tag = .ok (st', code) → Φ st' ≤ Φ st + c)
  (hv : ∀ st tag nm b, (m.value st tag nm b).Sat (fun st' => Φ st' ≤ Φ st + c * (5 + nm.length + b.length)) fun _ => True)
include hd hv

omit L in
/-- a machine that raises a potential `Φ` by at most `c` per wire byte of the delimiter or value token it
    is given (and whose value half neither panics nor hangs) does so for every item it is fed -/
theorem feed_pays (st : σ) (it : Item) :
    (m.feed cfg.endTag st it).Sat (fun q => Φ q.1 ≤ Φ st + c * it.wireLen) fun _ => True := by
  cases it with
  | delim tag =>
    simp only [Machine.feed]
    cases h : m.delim st tag with
    | error e => trivial
    | ok q => rw [Item.wireLen, Nat.mul_one]; exact hd _ _ _ _ h
  | value tag n b => exact Outcome.Sat.bind (hv st tag n b) fun _ h => h

/-- The loop rule: with such a machine the loop neither panics nor runs out of a fuel that exceeds the
    reader's size, and on return `Φ` has gained at most `c` per unit the reader has lost.
    (`Φ := fun _ => 0` is plain totality.) -/
theorem driveLoop_pays (fuel : Nat) (r : ρ) (st : σ) (hf : size r < fuel) :
    (driveLoop rd cfg m fuel r st).Sat (fun q => Φ q.1 + c * size q.2 ≤ Φ st + c * size r) fun _ => True := by
  induction fuel generalizing r st with
  | zero => nomatch hf
  | succ n ih =>
    rw [driveLoop_succ]
    refine Outcome.Sat.bind (rdItem_shrinks L cfg r) fun p hp => ?_
    refine Outcome.Sat.bind (feed_pays cfg m Φ c hd hv st p.1) fun q hq => ?_
    have hw : 1 ≤ p.1.wireLen := by cases p.1 <;> simp only [Item.wireLen] <;> omega
    have key : Φ q.1 + c * size p.2 ≤ Φ st + c * size r := by
      have := Nat.mul_le_mul_left c hp
      rw [Nat.mul_add] at this
      omega
    split
    · exact key
    · exact (ih _ _ (by omega)).imp (fun _ h => Nat.le_trans h key) fun _ h => h

omit hd hv in
theorem driveLoop_safe (hm : ∀ st tag name body, (m.value st tag name body).safe)
    (fuel : Nat) (r : ρ) (st : σ) (hf : size r < fuel) : (driveLoop rd cfg m fuel r st).safe :=
  (driveLoop_pays L cfg m (fun _ => 0) 0 (fun _ _ _ _ _ => Nat.le_refl _)
    (fun _ _ _ _ => (hm ..).imp (fun _ _ => Nat.zero_le _) fun _ h => h) fuel r st hf).safe

omit hd hv in
theorem parseWith_safe (cfg : LoopCfg) (fuel : Nat) (r : ρ) (hf : size r < fuel) : (parseWith rd cfg fuel r).safe := by
  rw [parseWith_eq]
  refine Outcome.Sat.bind (rdHeader_shrinks L r) fun p (hp : size p.2 + 8 ≤ size r) => ?_
  exact (driveLoop_safe L cfg pMachine (fun _ _ _ _ => parseValue_safe ..) fuel p.2 PState.init (by omega)).bind
    fun _ _ => trivial

end laws

/-! ### the first lawful reader: the flat one, with a configurable end-of-input error -/

/-- the flat reader, failing with `e` when the bytes run out (`flatRd` is `cutRd .unexpectedEof`) -/
def cutRd (e : IoKind) : Reader Bytes where
  readExact := fun n bs => if n ≤ bs.length then .ok (bs.take n, bs.drop n) else .error e

theorem flatRd_eq_cutRd : flatRd = cutRd .unexpectedEof := rfl

theorem cutRd_laws (e : IoKind) : ReaderLaws (cutRd e) List.length where
  len := fun n r bs r' h => by
    simp only [cutRd] at h
    split at h <;> cases h
    exact List.length_take_of_le ‹_›
  dec := fun n r bs r' h => by
    simp only [cutRd] at h
    split at h <;> cases h
    rw [List.length_drop, Nat.sub_add_cancel ‹_›]
    exact Nat.le_refl _

theorem flatRd_laws : ReaderLaws flatRd List.length := cutRd_laws _

end Ipp
