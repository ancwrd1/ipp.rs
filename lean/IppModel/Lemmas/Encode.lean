/-
  The encoder against the reference encoding, at the level of values, attributes and groups: `to_bytes`
  writes the token stream of the wire tree, that tree is well-formed, and it means the value.  For values each
  of the three is one application of the induction principle over well-formed values (`WfCases`,
  `wfVal_induct`: `enc_cases`, `wf_cases`, `interp_cases`); for attributes and groups the three are proved
  together (`toWAttrs_spec`, `toWGroups_spec`).  The message level is Lemmas/Message.lean.
-/
import IppModel.Lemmas.OpOrder
import IppModel.Lemmas.DecodeSpec
import IppModel.Lemmas.WfWire
namespace Ipp
open Gen Spec

def isScalar : Value → Bool
  | .array _ | .coll _ => false
  | _ => true

theorem wfVal_array_cons {c a : Bool} {v : Value} {vs : List Value} : wfVal c a (.array (v :: vs)) = true ↔
    a = true ∧ vs ≠ [] ∧ wfVal c false v = true ∧ wfElems c vs = true := by
  cases vs <;> simp [wfVal, wfElems]

theorem wfElems_cons {c : Bool} {v : Value} {vs : List Value} :
    wfElems c (v :: vs) = true ↔ wfVal c false v = true ∧ wfElems c vs = true := Bool.and_eq_true_iff

theorem wfMembers_cons {k : Bytes} {v : Value} {ms : List (Bytes × Value)} : wfMembers ((k, v) :: ms) = true ↔
    validUtf8 k = true ∧ k.length < 65536 ∧ wfVal true true v = true ∧ wfMembers ms = true := by
  simp only [wfMembers, Bool.and_eq_true, decide_eq_true_eq, and_assoc]

/-- a value that is not a set goes on the wire as one value -/
theorem toWVs_of_wf {c : Bool} {v : Value} (h : wfVal c false v = true) : toWVs v = [toWV v] := by
  cases v <;> first | rfl | cases h

/-- What an induction over a well-formed value and its wire form has to show.  A value is a scalar, a collection,
    or (where a set is allowed) a set of two or more values that are not sets, each of them one wire value; `Pl`
    and `Pm` are the companion statements about the elements of a set and the members of a collection, the
    Boolean is `inColl` of `wfVal`. -/
structure WfCases (P : Bool → Value → List WVal → Prop) (Pl : Bool → List Value → List WVal → Prop)
    (Pm : List (Bytes × Value) → List (Bytes × List WVal) → Prop) : Prop where
  scalar : ∀ {c v}, isScalar v = true → wfVal c false v = true → P c v [.plain (registryTag v) (scalarBody v)]
  coll : ∀ {c ms wms}, Pm ms wms → P c (.coll ms) [.coll wms]
  set : ∀ {c v w vs ws}, P c v [w] → vs ≠ [] → Pl c vs ws → P c (.array (v :: vs)) (w :: ws)
  nil : ∀ {c}, Pl c [] []
  cons : ∀ {c v w vs ws}, P c v [w] → Pl c vs ws → Pl c (v :: vs) (w :: ws)
  mnil : Pm [] []
  mcons : ∀ {k v ws ms wms}, validUtf8 k = true → k.length < 65536 → P true v ws → Pm ms wms →
    Pm ((k, v) :: ms) ((k, ws) :: wms)

section
variable {P : Bool → Value → List WVal → Prop} {Pl : Bool → List Value → List WVal → Prop}
  {Pm : List (Bytes × Value) → List (Bytes × List WVal) → Prop}
mutual
theorem wfVal_induct (H : WfCases P Pl Pm) (c a : Bool) (v : Value) (h : wfVal c a v = true) : P c v (toWVs v) := by
  cases v with
  | array vs =>
    cases vs with
    | nil => cases a <;> cases h
    | cons v vs =>
      obtain ⟨-, hne, hv, hvs⟩ := wfVal_array_cons.mp h
      exact H.set (toWVs_of_wf hv ▸ wfVal_induct H c false v hv) hne (wfElems_induct H c vs hvs)
  | coll ms => exact H.coll (wfMembers_induct H ms h)
  | _ => exact H.scalar rfl h
theorem wfElems_induct (H : WfCases P Pl Pm) (c : Bool) (vs : List Value) (h : wfElems c vs = true) :
    Pl c vs (toWVl vs) := by
  cases vs with
  | nil => exact H.nil
  | cons v vs =>
    obtain ⟨hv, hvs⟩ := wfElems_cons.mp h
    exact H.cons (toWVs_of_wf hv ▸ wfVal_induct H c false v hv) (wfElems_induct H c vs hvs)
theorem wfMembers_induct (H : WfCases P Pl Pm) (ms : List (Bytes × Value)) (h : wfMembers ms = true) :
    Pm ms (toWMs ms) := by
  cases ms with
  | nil => exact H.mnil
  | cons p ms =>
    obtain ⟨k, v⟩ := p
    obtain ⟨hk, hl, hv, hms⟩ := wfMembers_cons.mp h
    exact H.mcons hk hl (wfVal_induct H true true v hv) (wfMembers_induct H ms hms)
end
end

theorem tagOf_registry (v : Value) (inColl : Bool) (hv : wfVal inColl false v = true) : tagOf v = registryTag v := by
  cases v with
  | int k _ | str k _ | lang k _ _ => cases k <;> rfl
  | array vs => cases hv
  | _ => rfl

theorem scalarBody_lang_length (k : LangKind) (l t : Bytes) :
    (scalarBody (.lang k l t)).length = l.length + t.length + 4 := by
  simp only [scalarBody, List.length_append, be16_length]
  omega

/-- the value field written by `to_bytes` for a scalar is the length-prefixed RFC body -/
theorem encValue_scalar (v : Value) (h : isScalar v = true) :
    encValue v = be16 (scalarBody v).length ++ scalarBody v := by
  cases v with
  | array | coll => cases h
  | lang k l t => exact congrArg (be16 · ++ _) (scalarBody_lang_length k l t).symm
  | bool b => cases b <;> rfl
  | _ => rfl

/-! `to_bytes` on the three composite forms, in terms of `encAttr` on the parts -/

theorem encAttr_set (name : Bytes) (v : Value) (vs : List Value) :
    encAttr name (.array (v :: vs)) = encAttr name v ++ encElems vs false := by
  simp [encAttr, encValue, encElems, tagOf, tagOfFirst]

theorem encElems_cons (v : Value) (vs : List Value) : encElems (v :: vs) false = encAttr [] v ++ encElems vs false := by
  simp [encAttr, encElems]

theorem encMembers_cons (k : Bytes) (v : Value) (ms : List (Bytes × Value)) :
    encMembers ((k, v) :: ms) = encAttr [] (.str .memberAttrName k) ++ (encAttr [] v ++ encMembers ms) := by
  simp [encAttr, encMembers, encValue, tagOf, memberNameTag]

theorem toksAttr_one (name : Bytes) (w : WVal) : toksAttr ⟨name, [w]⟩ = toksV name w := List.append_nil _

theorem toksAttr_nil_name (vs : List WVal) : toksAttr ⟨[], vs⟩ = toksVs vs := by cases vs <;> rfl

theorem enc_cases : WfCases (fun _ v ws => ∀ name, encAttr name v = toksBytes (toksAttr ⟨name, ws⟩))
    (fun _ vs ws => encElems vs false = toksBytes (toksVs ws)) (fun ms wms => encMembers ms = toksBytes (toksMs wms)) where
  scalar {c v} hs h name := by
    rw [encAttr, tagOf_registry v c h, encValue_scalar v hs]
    exact (List.append_nil _).symm
  coll ih name := by
    -- a collection is written as a begin token that carries the name, the members, and an end token
    simp only [toksAttr, toksVs, toksV, toksBytes, tokBytes, toksBytes_append, ← ih, List.append_assoc,
      List.cons_append, List.nil_append, List.append_nil]
    rfl
  set ihv _ ihl name := by
    rw [encAttr_set, ihv, ihl, toksAttr_one, ← toksBytes_append]
    rfl
  nil := rfl
  cons ihv ihl := by
    rw [encElems_cons, ihv, ihl, toksAttr_one, ← toksBytes_append]
    rfl
  mnil := rfl
  mcons _ _ ihv ihm := by
    rw [encMembers_cons, ihv, ihm, toksAttr_nil_name, ← toksBytes_append]
    rfl

theorem enc_Ms (ms : List (Bytes × Value)) (h : wfMembers ms = true) :
    encMembers ms = toksBytes (toksMs (toWMs ms)) := wfMembers_induct enc_cases ms h

theorem otherTagOk_eq (t : UInt8) : otherTagOk t = (valueTagOk t && !registered.contains t) := rfl

theorem wfBody_lang_enc (k : LangKind) (l x : Bytes) (hl : l.length < 65536) (hx : x.length < 65536) :
    wfBody k.vtag.u8 (scalarBody (.lang k l x)) = true := by
  simp only [scalarBody, be16, List.cons_append, List.nil_append, wfBody_langKind, unbe16_be16 _ hl, List.drop_left,
    unbe16_be16 _ hx]
  simp

/-- the tag is held to more inside a collection than outside -/
theorem wfV_of_true {c : Bool} {t : UInt8} {b : Bytes} (h : wfV true (.plain t b) = true) :
    wfV c (.plain t b) = true := by
  rw [wfV_plain] at h ⊢
  exact ⟨h.1, h.2.1, h.2.2.1, fun _ => h.2.2.2.1 rfl, h.2.2.2.2⟩

theorem wf_scalar (c : Bool) (v : Value) (h : wfVal c false v = true) (hs : isScalar v = true) :
    wfV c (.plain (registryTag v) (scalarBody v)) = true := by
  rw [← tagOf_registry v c h]
  cases v with
  | array | coll => cases hs
  | int k x => cases k <;> exact wfV_of_true (by rfl)
  | str k s =>
    simp only [wfVal, Bool.and_eq_true, decide_eq_true_eq] at h
    simp only [wfV, tagOf, scalarBody, wfBody_str, h.1.2, decide_true, Bool.and_true]
    cases k <;> cases c <;> first | decide | simp at h
  | lang k l t =>
    simp only [wfVal, Bool.and_eq_true, decide_eq_true_eq] at h
    simp only [wfV, tagOf, wfBody_lang_enc k l t (by omega) (by omega), scalarBody_lang_length, h.2, decide_true,
      Bool.and_true]
    cases k <;> cases c <;> decide
  | other t d =>
    simp only [wfVal, otherTagOk_eq, Bool.and_eq_true, decide_eq_true_eq, Bool.not_eq_true'] at h
    have ne : ∀ x, registered.contains x = true → t ≠ x := fun x hx e => by
      rw [e, hx] at h
      cases h.1.2
    exact wfV_plain.mpr ⟨h.1.1, ne _ (by decide), ne _ (by decide), fun _ => ne _ (by decide), h.2,
      (plain_other h.1.2 d).2⟩
  -- `by rfl` and not the term `rfl`: the term is elaborated twice here, before and after the tag is known
  | _ => exact wfV_of_true (by rfl)

theorem wf_cases : WfCases (fun c _ ws => ws ≠ [] ∧ wfVs c ws = true) (fun c _ ws => wfVs c ws = true)
    (fun _ wms => wfMs wms = true) where
  scalar hs h := ⟨List.cons_ne_nil _ _, wfVs_cons.mpr ⟨wf_scalar _ _ h hs, rfl⟩⟩
  coll ih := ⟨List.cons_ne_nil _ _, wfVs_cons.mpr ⟨ih, rfl⟩⟩
  set ihv _ ihl := ⟨List.cons_ne_nil _ _, wfVs_cons.mpr ⟨(wfVs_cons.mp ihv.2).1, ihl⟩⟩
  nil := rfl
  cons ihv ihl := wfVs_cons.mpr ⟨(wfVs_cons.mp ihv.2).1, ihl⟩
  mnil := rfl
  mcons _ hl ihv ihm := wfMs_cons.mpr ⟨hl, ihv.1, ihv.2, ihm⟩

theorem wf_Ms (ms : List (Bytes × Value)) (h : wfMembers ms = true) : wfMs (toWMs ms) = true :=
  wfMembers_induct wf_cases ms h

theorem delimOf_code (t : DelimiterTag) (h : t ≠ .EndOfAttributes) : delimOf (UInt8.ofNat t.code) = some t := by
  cases t <;> first | rfl | exact absurd rfl h

theorem decodePlain_scalar (c : Bool) (v : Value) (h : wfVal c false v = true) (hs : isScalar v = true) :
    decodePlain (registryTag v) (scalarBody v) = v := by
  rw [← tagOf_registry v c h]
  cases v with
  | array | coll => cases hs
  | int k x => exact (decodePlain_int k ..).trans (congrArg _ (unbe32_be32 x))
  | bool b => cases b <;> rfl
  | range lo hi =>
    refine (decodePlain_range ..).trans ?_
    rw [unbe32_be32, unbe32_be32]
  | dateTime y mo d hh mi s ds dir uh um =>
    refine (decodePlain_dateTime ..).trans ?_
    rw [ofNat_unbe16_be16, UInt8.toNat_ofNat_of_lt' (of_decide_eq_true h)]
  | resolution x y u =>
    refine (decodePlain_resolution ..).trans ?_
    rw [unbe32_be32, unbe32_be32]
  | noValue => exact decodePlain_noValue _
  | str k s =>
    simp only [wfVal, Bool.and_eq_true, decide_eq_true_eq] at h
    exact (decodePlain_str k s).trans (congrArg _ (lossy_id s h.1.1))
  | lang k l t =>
    simp only [wfVal, Bool.and_eq_true, decide_eq_true_eq] at h
    simp only [tagOf, scalarBody, be16, List.cons_append, List.nil_append, decodePlain_langKind,
      unbe16_be16 l.length (by omega), List.drop_left, List.take_left, unbe16_be16 t.length (by omega),
      List.take_length, lossy_id l h.1.1, lossy_id t h.1.2]
  | other t d =>
    simp only [wfVal, otherTagOk_eq, Bool.and_eq_true, Bool.not_eq_true'] at h
    exact (plain_other h.1.2 d).1

theorem interp_cases : WfCases (fun _ v ws => collsSorted v = true → listOrValue (interpVs ws) = v)
    (fun _ vs ws => collsSortedL vs = true → interpVs ws = vs)
    (fun ms wms => collsSortedM ms = true → ∀ m, interpMs wms m = sinsertAll ms m) where
  scalar hs h _ := by
    simp only [interpVs, interpV, listOrValue, decodePlain_scalar _ _ h hs]
  coll ih hs := by
    obtain ⟨h1, h2⟩ := Bool.and_eq_true_iff.mp hs
    exact congrArg Value.coll ((ih h2 []).trans (sinsertAll_self h1))
  set {_ v w vs ws} ihv hne ihl hs := by
    obtain ⟨h1, h2⟩ := Bool.and_eq_true_iff.mp hs
    rw [show interpVs (w :: ws) = v :: vs from congr (congrArg List.cons (ihv h1)) (ihl h2)]
    cases vs with
    | nil => exact absurd rfl hne
    | cons _ _ => rfl
  nil _ := rfl
  cons ihv ihl hs := by
    obtain ⟨h1, h2⟩ := Bool.and_eq_true_iff.mp hs
    exact congr (congrArg List.cons (ihv h1)) (ihl h2)
  mnil _ _ := rfl
  mcons {k v ws ms wms} hk _ ihv ihm hs m := by
    obtain ⟨h1, h2⟩ := Bool.and_eq_true_iff.mp hs
    show interpMs wms (sinsert (lossy k) (listOrValue (interpVs ws)) m) = sinsertAll ms (sinsert k v m)
    rw [lossy_id k hk, ihv h1, ihm h2]

theorem interp_Ms (ms : List (Bytes × Value)) (h : wfMembers ms = true) (hs : collsSortedM ms = true)
    (m : List (Bytes × Value)) : interpMs (toWMs ms) m = sinsertAll ms m := wfMembers_induct interp_cases ms h hs m

theorem wfAttrC_iff {p : Bytes × Value} : wfAttrC p = true ↔ p.1.isEmpty = false ∧ validUtf8 p.1 = true ∧
    p.1.length < 65536 ∧ wfVal false true p.2 = true ∧ collsSorted p.2 = true := by
  simp only [wfAttrC, Bool.and_eq_true, Bool.not_eq_true', decide_eq_true_eq, and_assoc]

theorem toWAttr_spec (p : Bytes × Value) (h : wfAttrC p = true) :
    encAttr p.1 p.2 = toksBytes (toksAttr (toWAttr p)) ∧ wfAttr (toWAttr p) = true ∧ interpAttr (toWAttr p) = p := by
  obtain ⟨h1, h2, h3, h4, h5⟩ := wfAttrC_iff.mp h
  obtain ⟨n, v⟩ := p
  have w := wfVal_induct wf_cases false true v h4
  refine ⟨wfVal_induct enc_cases false true v h4 n, ?_,
    Prod.ext (lossy_id n h2) (wfVal_induct interp_cases false true v h4 h5)⟩
  simp [wfAttr, toWAttr, h1, h3, w.1, w.2]

theorem toWAttrs_spec (X : List (Bytes × Value)) (h : ∀ p ∈ X, wfAttrC p = true) :
    encAttrs X = toksBytes (toksAttrs (toWAttrs X)) ∧ wfAttrs (toWAttrs X) = true ∧
      ∀ m, interpAttrs (toWAttrs X) m = sinsertAll X m := by
  induction X with
  | nil => exact ⟨rfl, rfl, fun _ => rfl⟩
  | cons p r ih =>
    obtain ⟨hp, hr⟩ := List.forall_mem_cons.mp h
    obtain ⟨e, w, i⟩ := toWAttr_spec p hp
    obtain ⟨er, wr, ir⟩ := ih hr
    refine ⟨?_, wfAttrs_cons.mpr ⟨w, wr⟩, fun m => ?_⟩
    · rw [toWAttrs, toksAttrs, toksBytes_append, ← e, ← er]
      rfl
    · rw [toWAttrs, interpAttrs, i, ir]
      rfl

/-- a group the encoder's theorems speak of: not the end tag, every attribute in the domain -/
def GroupDom (g : Group) : Prop := g.tag ≠ .EndOfAttributes ∧ ∀ p ∈ g.attrs, wfAttrC p = true

theorem toWGroups_spec (X : List Group) (h : ∀ l ∈ X, GroupDom l) :
    encGroups X = serGroups (toWGroups X) ∧ wfGroups (toWGroups X) = true ∧
      interpGroups (toWGroups X) = X.map Group.canon := by
  induction X with
  | nil => exact ⟨rfl, rfl, rfl⟩
  | cons l ls ih =>
    obtain ⟨⟨ht, hl⟩, hls⟩ := List.forall_mem_cons.mp h
    obtain ⟨e, w, i⟩ := toWAttrs_spec l.attrs hl
    obtain ⟨er, wr, ir⟩ := ih hls
    simp only [toWGroups, toWGroup, encGroups, encGroup, serGroups, serGroup, wfGroups, wfGroup, interpGroups,
      interpGroup, delimOf_code _ ht, e, er, w, wr, i, ir, DelimiterTag.u8, Option.isSome_some, Option.getD_some,
      Bool.and_self, List.map_cons, Group.canon, and_self]

end Ipp
