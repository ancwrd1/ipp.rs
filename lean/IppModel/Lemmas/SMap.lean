/-
  The sorted association list of Model/SMap.lean.  In this order: lookups after insertion, which need no order;
  lists that are functions on keys (`KeyFn`), which is all a lookup sees; `blt` is core's `<` on lists and `sortedB`
  is `List.Pairwise`, so the order theory is core's; strictly sorted lists: insertion, extensionality, re-insertion.
-/
import IppModel.Model.SMap
namespace Ipp
variable {α : Type}

theorem bytes_beq_iff {a b : Bytes} : (a == b) = true ↔ a = b :=
  -- named, since the search finds it only after many failed tries through the order classes
  have : LawfulBEq UInt8 := instLawfulBEq
  beq_iff_eq

theorem sget_cons (j k : Bytes) (v : α) (r : List (Bytes × α)) :
    sget j ((k, v) :: r) = if j = k then some v else sget j r := rfl

theorem sget_sinsert (k j : Bytes) (v : α) (l : List (Bytes × α)) :
    sget j (sinsert k v l) = if j = k then some v else sget j l := by
  fun_induction sinsert k v l with
  | case1 => rfl
  | case2 => rfl
  | case3 v' r =>
    exact ite_congr rfl (fun _ => rfl) fun h => (if_neg h).symm
  | case4 k' v' r _ hne ih =>
    rw [sget_cons, sget_cons, ih]
    by_cases h : j = k'
    · rw [if_pos h, if_neg (h ▸ Ne.symm hne), if_pos h]
    · rw [if_neg h, if_neg h]

theorem sget_sinsert_self (k : Bytes) (v : α) (l : List (Bytes × α)) : sget k (sinsert k v l) = some v := by
  rw [sget_sinsert, if_pos rfl]

theorem sget_isSome_sinsert (k j : Bytes) (v : α) (l : List (Bytes × α)) (h : (sget j l).isSome) :
    (sget j (sinsert k v l)).isSome := by
  rw [sget_sinsert]
  split
  · rfl
  · exact h

theorem sinsertAll_nil (m : List (Bytes × α)) : sinsertAll [] m = m := rfl

theorem sinsertAll_cons (p : Bytes × α) (l m : List (Bytes × α)) :
    sinsertAll (p :: l) m = sinsertAll l (sinsert p.1 p.2 m) := rfl

theorem sget_isSome_sinsertAll {j : Bytes} {l m : List (Bytes × α)} (h : (sget j m).isSome) :
    (sget j (sinsertAll l m)).isSome := by
  induction l generalizing m with
  | nil => exact h
  | cons p r ih => exact ih (sget_isSome_sinsert _ _ _ _ h)

theorem sinsertAll_append (l1 l2 m : List (Bytes × α)) :
    sinsertAll (l1 ++ l2) m = sinsertAll l2 (sinsertAll l1 m) :=
  List.foldl_append

/-! The lookup through a whole fold of inserts (`SM0.sinsertAll_nil` is `sinsertAll_nil` under this namespace). -/
namespace SM0
theorem sget_sinsert_ne (k j : Bytes) (v : α) (l : List (Bytes × α)) (h : j ≠ k) :
    sget j (sinsert k v l) = sget j l := by
  rw [sget_sinsert, if_neg h]

theorem sinsertAll_nil (m : List (Bytes × α)) : sinsertAll [] m = m := rfl

/-- lookup in a fold of inserts: the last pair with that key wins, else the start map -/
theorem sget_sinsertAll (j : Bytes) (l m : List (Bytes × α)) :
    sget j (sinsertAll l m) =
      match (l.reverse.find? (fun p => p.1 == j)) with
      | some p => some p.2
      | none => sget j m := by
  induction l generalizing m with
  | nil => rfl
  | cons p r ih =>
    rw [sinsertAll_cons, ih, List.reverse_cons, List.find?_append]
    cases r.reverse.find? (fun p => p.1 == j) with
    | some q => rfl
    | none =>
      -- no later pair has the key: both sides test `p` and fall back on `m`
      rw [sget_sinsert, Option.none_or, List.find?_singleton]
      by_cases hj : p.1 = j
      · rw [if_pos hj.symm, if_pos (bytes_beq_iff.mpr hj)]
      · rw [if_neg (Ne.symm hj), if_neg (mt bytes_beq_iff.mp hj)]
end SM0

theorem sget_mem {k : Bytes} {v : α} {l : List (Bytes × α)} (h : sget k l = some v) : (k, v) ∈ l := by
  fun_induction sget k l with
  | case1 => cases h
  | case2 v' r => exact Option.some.inj h ▸ List.mem_cons_self
  | case3 k' v' r _ ih => exact List.mem_cons_of_mem _ (ih h)

/-- every key has at most one value in the list; invariant under permutation, implied by strict sortedness -/
def KeyFn (l : List (Bytes × α)) : Prop := ∀ k v v', (k, v) ∈ l → (k, v') ∈ l → v = v'

theorem KeyFn_of_mem {l l' : List (Bytes × α)} (h : KeyFn l) (hm : ∀ p, p ∈ l' → p ∈ l) : KeyFn l' :=
  fun k v v' h1 h2 => h k v v' (hm _ h1) (hm _ h2)

theorem KeyFn_cons {p : Bytes × α} {r : List (Bytes × α)} (hp : ∀ q ∈ r, q.1 ≠ p.1) (hr : KeyFn r) : KeyFn (p :: r) := by
  intro k v v' h1 h2
  rcases List.mem_cons.mp h1 with e1 | h1 <;> rcases List.mem_cons.mp h2 with e2 | h2
  · exact congrArg Prod.snd (e1.trans e2.symm)
  · exact absurd (congrArg Prod.fst e1) (hp (k, v') h2)
  · exact absurd (congrArg Prod.fst e2) (hp (k, v) h1)
  · exact hr k v v' h1 h2

theorem sget_iff_mem {l : List (Bytes × α)} (hf : KeyFn l) (k : Bytes) (v : α) :
    sget k l = some v ↔ (k, v) ∈ l := by
  refine ⟨sget_mem, fun h => ?_⟩
  fun_induction sget k l with
  | case1 => cases h
  | case2 v' r => exact congrArg some (hf k v' v List.mem_cons_self h)
  | case3 k' v' r hne ih =>
    exact ih (KeyFn_of_mem hf fun _ => List.mem_cons_of_mem _)
      ((List.mem_cons.mp h).resolve_left fun e => hne (congrArg Prod.fst e))

/-- lookups see only the members: two functional lists with the same members have the same lookups -/
theorem sget_congr {l l' : List (Bytes × α)} (hf : KeyFn l) (hm : ∀ p, p ∈ l' ↔ p ∈ l) (k : Bytes) :
    sget k l' = sget k l := by
  apply Option.ext
  intro v
  rw [sget_iff_mem hf, sget_iff_mem (KeyFn_of_mem hf fun p => (hm p).mp), hm]

theorem sget_sinsertAll_iff_mem {L : List (Bytes × α)} (hf : KeyFn L) (k : Bytes) (v : α) :
    sget k (sinsertAll L []) = some v ↔ (k, v) ∈ L := by
  rw [SM0.sget_sinsertAll]
  cases h : L.reverse.find? (fun p => p.1 == k) with
  | none =>
    exact ⟨nofun, fun hm => absurd (bytes_beq_iff.mpr rfl) (List.find?_eq_none.mp h _ (List.mem_reverse.mpr hm))⟩
  | some p =>
    have hp : p.1 = k := bytes_beq_iff.mp (List.find?_some h :)
    have hm : (k, p.2) ∈ L := hp ▸ List.mem_reverse.mp (List.mem_of_find?_eq_some h)
    exact ⟨fun e => Option.some.inj e ▸ hm, fun h' => congrArg some (hf k _ _ hm h')⟩

theorem blt_iff_lt {a b : Bytes} : blt a b = true ↔ a < b := by
  have hlex : blt a b = a.lex b := by
    induction a generalizing b with
    | nil => cases b <;> rfl
    | cons x xs ih =>
      cases b with
      | nil => rfl
      | cons y ys => exact congrArg (fun c => decide (x < y) || (x == y && c)) ih
  have : LawfulBEq UInt8 := instLawfulBEq
  rw [hlex, List.lex_eq_true_iff_lt]

theorem blt_asymm {a b : Bytes} (h : blt a b = true) : blt b a = false :=
  Bool.eq_false_iff.mpr fun h' => List.lt_asymm (blt_iff_lt.mp h) (blt_iff_lt.mp h')

theorem sortedB_iff {l : List (Bytes × α)} : sortedB l = true ↔ l.Pairwise fun p q => p.1 < q.1 := by
  induction l with
  | nil => exact ⟨fun _ => .nil, fun _ => rfl⟩
  | cons p r ih =>
    cases r with
    | nil => exact ⟨fun _ => List.pairwise_singleton _ _, fun _ => rfl⟩
    | cons q s =>
      rw [List.pairwise_cons, ← ih, sortedB, Bool.and_eq_true, blt_iff_lt, List.forall_mem_cons]
      -- `sortedB` tests the neighbour only; the later keys follow by transitivity
      refine and_congr_left fun hs => (and_iff_left_of_imp fun hpq a ha => ?_).symm
      exact List.lt_trans hpq (List.rel_of_pairwise_cons (ih.mp hs) ha)

theorem sinsert_mem {k : Bytes} {v : α} {l : List (Bytes × α)} {p : Bytes × α} (h : p ∈ sinsert k v l) :
    p = (k, v) ∨ p ∈ l := by
  fun_induction sinsert k v l with
  | case1 => exact .inl (List.mem_singleton.mp h)
  | case2 => exact List.mem_cons.mp h
  | case3 => exact (List.mem_cons.mp h).imp_right (List.mem_cons_of_mem _)
  | case4 k' v' r _ _ ih =>
    rcases List.mem_cons.mp h with h | h
    · exact .inr (h ▸ List.mem_cons_self)
    · exact (ih h).imp_right (List.mem_cons_of_mem _)

theorem sinsert_sorted (k : Bytes) (v : α) (l : List (Bytes × α)) (h : sortedB l = true) :
    sortedB (sinsert k v l) = true := by
  rw [sortedB_iff] at h ⊢
  fun_induction sinsert k v l with
  | case1 => exact List.pairwise_singleton _ _
  | case2 k' v' r hlt =>
    have hlt := blt_iff_lt.mp hlt
    exact List.pairwise_cons.mpr
      ⟨List.forall_mem_cons.mpr ⟨hlt, fun a ha => List.lt_trans hlt (List.rel_of_pairwise_cons h ha)⟩, h⟩
  | case3 v' r =>
    exact List.pairwise_cons.mpr (List.pairwise_cons.mp h)
  | case4 k' v' r hnl hne ih =>
    obtain ⟨hlow, hr⟩ := List.pairwise_cons.mp h
    refine List.pairwise_cons.mpr ⟨fun a ha => ?_, ih hr⟩
    rcases sinsert_mem ha with rfl | ha
    · -- `k` is neither below `k'` nor equal to it
      exact Decidable.of_not_not fun hgt => hne (List.le_antisymm hgt (mt blt_iff_lt.mpr hnl))
    · exact hlow a ha

theorem sortedB_keyFn {l : List (Bytes × α)} (hs : sortedB l = true) : KeyFn l := by
  replace hs := sortedB_iff.mp hs
  induction hs with
  | nil => exact fun _ _ _ h => nomatch h
  | cons hlow _ ih => exact KeyFn_cons (fun q hq e => List.lt_irrefl _ (e ▸ hlow q hq)) ih

/-- extensionality: sorted lists with the same members are equal, being duplicate-free, hence
    permutations of each other, and sorted by an asymmetric relation -/
theorem sorted_ext_mem {l1 l2 : List (Bytes × α)} (h1 : sortedB l1 = true) (h2 : sortedB l2 = true)
    (h : ∀ p, p ∈ l1 ↔ p ∈ l2) : l1 = l2 := by
  rw [sortedB_iff] at h1 h2
  have ne : ∀ {p q : Bytes × α}, p.1 < q.1 → p ≠ q := fun hlt e => List.lt_irrefl _ (e ▸ hlt)
  exact ((List.perm_ext_iff_of_nodup (h1.imp ne) (h2.imp ne)).mpr h).eq_of_pairwise
    (fun _ _ _ _ hab hba => absurd hba (List.lt_asymm hab)) h1 h2

theorem sinsertAll_sorted (l m : List (Bytes × α)) (h : sortedB m = true) : sortedB (sinsertAll l m) = true := by
  induction l generalizing m with
  | nil => exact h
  | cons p r ih => exact ih _ (sinsert_sorted _ _ _ h)

theorem mem_sinsertAll_iff {L : List (Bytes × α)} (hf : KeyFn L) (p : Bytes × α) :
    p ∈ sinsertAll L [] ↔ p ∈ L := by
  rw [← sget_sinsertAll_iff_mem hf, sget_iff_mem (sortedB_keyFn (sinsertAll_sorted L [] rfl))]

/-- inserting, in any order, the pairs of a list with the same members as a strictly sorted list
    rebuilds the sorted list -/
theorem sinsertAll_eq_of_mem {l L : List (Bytes × α)} (hs : sortedB l = true) (hm : ∀ p, p ∈ L ↔ p ∈ l) :
    sinsertAll L [] = l :=
  sorted_ext_mem (sinsertAll_sorted L [] rfl) hs fun p =>
    (mem_sinsertAll_iff (KeyFn_of_mem (sortedB_keyFn hs) fun p => (hm p).mp) p).trans (hm p)

theorem sinsertAll_perm {l L : List (Bytes × α)} (hs : sortedB l = true) (hp : L.Perm l) :
    sinsertAll L [] = l :=
  sinsertAll_eq_of_mem hs (fun _ => hp.mem_iff)

theorem sinsertAll_self {l : List (Bytes × α)} (hs : sortedB l = true) : sinsertAll l [] = l :=
  sinsertAll_perm hs (List.Perm.refl _)

end Ipp
