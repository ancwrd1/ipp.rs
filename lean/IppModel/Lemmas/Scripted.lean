/-
  The scripted readers.  `readExactStd` and `readExactFut` differ in one branch (what an `Interrupted`
  does), so they are both instances of `readExactG`, about which the facts are proved: the reader laws,
  and that on `s ++ t` with a fault-free `s` it reads like the flat reader on the bytes of `s`
  (`cutRd e`: the flat reader whose end-of-input error is `e`).  Then the simulations that C05–C07 use:
  each scripted reader against `cutRd e`, the async reader against the blocking one, and `deliver`.
-/
import IppModel.Lemmas.Sources
import IppModel.Lemmas.Total
namespace Ipp
open Gen

variable {ρ1 ρ2 α : Type}

theorem OutRel.mapRest_eq {R : ρ1 → ρ2 → Prop} {f : ρ1 → ρ2} {o1 : Outcome (α × ρ1)} {o2 : Outcome (α × ρ2)}
    (h : OutRel (withRest R) o1 o2) (hf : ∀ r1 r2, R r1 r2 → f r1 = r2) : o1.mapRest f = o2 := by
  cases h with
  | ok hab => exact congrArg Outcome.ok (Prod.ext hab.1 (hf _ _ hab.2))
  | _ => rfl

theorem OutRel.eq_of_eq {R : ρ1 → ρ1 → Prop} {o1 o2 : Outcome (α × ρ1)}
    (h : OutRel (withRest R) o1 o2) (hf : ∀ r1 r2, R r1 r2 → r1 = r2) : o1 = o2 := by
  have := h.mapRest_eq (f := id) hf
  rw [← this]
  cases o1 <;> rfl

/-- `readExactStd` (`retry = true`: `Interrupted` is retried) and `readExactFut` (`false`: it is returned) -/
def readExactG (retry : Bool) : Nat → Source → Except IoKind (Bytes × Source)
  | 0, src => .ok ([], src)
  | _ + 1, [] => .error .unexpectedEof
  | n + 1, .data b :: rest =>
    if b.length ≤ n then
      (if b.isEmpty then readExactG retry (n + 1) rest
       else match readExactG retry (n + 1 - b.length) rest with
        | .ok (bs, src') => .ok (b ++ bs, src')
        | .error k => .error k)
    else .ok (b.take (n + 1), .data (b.drop (n + 1)) :: rest)
  | n + 1, .pending :: rest => readExactG retry (n + 1) rest
  | n + 1, .interrupted :: rest => if retry then readExactG retry (n + 1) rest else .error .interrupted
  | _ + 1, .fail k :: _ => .error k

theorem readExactStd_eq (n : Nat) (src : Source) : readExactStd n src = readExactG true n src := by
  induction src generalizing n with
  | nil => cases n <;> rfl
  | cons ev rest ih =>
    cases n with
    | zero => rfl
    | succ m => cases ev <;> simp only [readExactStd, readExactG, ih, if_true] <;> rfl

theorem readExactFut_eq (n : Nat) (src : Source) : readExactFut n src = readExactG false n src := by
  induction src generalizing n with
  | nil => cases n <;> rfl
  | cons ev rest ih =>
    cases n with
    | zero => rfl
    | succ m => cases ev <;> simp only [readExactFut, readExactG, ih, Bool.false_eq_true, if_false] <;> rfl

def gRd (retry : Bool) : Reader Source := ⟨readExactG retry⟩

theorem stdRd_eq : stdRd = gRd true := congrArg Reader.mk (funext fun n => funext (readExactStd_eq n))
theorem futRd_eq : futRd = gRd false := congrArg Reader.mk (funext fun n => funext (readExactFut_eq n))

theorem readExactG_ok {retry : Bool} {n : Nat} {s s' : Source} {bs : Bytes} (h : readExactG retry n s = .ok (bs, s')) :
    bs.length = n ∧ Source.flat s = bs ++ Source.flat s' := by
  fun_induction readExactG retry n s generalizing bs s' <;> (try cases h) <;> (try simp only [Source.flat])
  case case1 => exact ⟨rfl, rfl⟩  -- `n = 0`
  case case3 hb ih => rw [List.isEmpty_iff.mp hb]; exact ih h  -- an empty chunk
  case case4 hr ih =>  -- a chunk used up
    obtain ⟨h1, h2⟩ := ih hr
    rw [h2, List.length_append, h1, List.append_assoc]
    exact ⟨Nat.add_sub_of_le (Nat.le_succ_of_le ‹_›), rfl⟩
  case case6 =>  -- a chunk larger than the request
    rw [← List.append_assoc, List.take_append_drop, List.length_take]
    exact ⟨Nat.min_eq_left (Nat.lt_of_not_le ‹_›), rfl⟩
  case case7 ih | case8 ih => exact ih h  -- `Pending`; `Interrupted`, retried

theorem gRd_laws (retry : Bool) : ReaderLaws (gRd retry) Source.size where
  len := fun _ _ _ _ h => (readExactG_ok h).1
  dec := fun n r bs r' h => by
    have ⟨h1, h2⟩ := readExactG_ok h
    rw [size_eq_flat_length, size_eq_flat_length, h2, List.length_append, h1, Nat.add_comm]
    exact Nat.le_refl _

theorem stdRd_laws : ReaderLaws stdRd Source.size := stdRd_eq ▸ gRd_laws true
theorem futRd_laws : ReaderLaws futRd Source.size := futRd_eq ▸ gRd_laws false

theorem readExactG_append {retry : Bool} {n : Nat} {s s' : Source} {bs : Bytes} (h : readExactG retry n s = .ok (bs, s'))
    (t : Source) : readExactG retry n (s ++ t) = .ok (bs, s' ++ t) := by
  fun_induction readExactG retry n s generalizing bs s' <;> (try cases h) <;>
    (try simp only [List.cons_append, readExactG])
  case case3 ih => rw [if_pos ‹_›, if_pos ‹_›]; exact ih h  -- an empty chunk
  case case4 hr ih => rw [if_pos ‹_›, if_neg ‹_›, ih hr]  -- a chunk used up
  case case6 => rw [if_neg ‹_›]  -- a chunk larger than the request
  case case7 ih => exact ih h  -- `Pending`
  case case8 ih => rw [if_pos ‹_›]; exact ih h  -- `Interrupted`, retried

/-- `noFault` and `noIntr` are both `List.all p` for such a `p` -/
theorem readExactG_rest_all {retry : Bool} {n : Nat} {s s' : Source} {bs : Bytes} (p : Ev → Bool)
    (hp : ∀ b, p (.data b) = true) (h : readExactG retry n s = .ok (bs, s')) (hs : s.all p = true) : s'.all p = true := by
  fun_induction readExactG retry n s generalizing bs s' <;> (try cases h) <;>
    (try simp only [List.all_cons, Bool.and_eq_true] at hs)
  case case1 => exact hs  -- `n = 0`
  case case3 ih | case7 ih | case8 ih => exact ih h hs.2  -- an empty chunk; `Pending`; `Interrupted`, retried
  case case4 hr ih => exact ih hr hs.2  -- a chunk used up
  case case6 => simp only [List.all_cons, hp, hs.2, Bool.and_self]  -- a chunk larger than the request

/-! ### the scripted reader on `s ++ t`, `s` fault-free, every non-empty read of `t` failing with `e` -/

/-- `s` is fault-free, and free of `Interrupted` when the reader does not retry it -/
def Clean (retry : Bool) (s : Source) : Prop := noFault s = true ∧ (retry = false → noIntr s = true)

theorem Clean.tail {retry : Bool} {ev : Ev} {s : Source} (h : Clean retry (ev :: s)) : Clean retry s :=
  ⟨((noFault_cons ev s).mp h.1).2, fun hr => ((noIntr_cons ev s).mp (h.2 hr)).2⟩

theorem Clean.rest {retry : Bool} {n : Nat} {s s' : Source} {bs : Bytes} (hc : Clean retry s)
    (h : readExactG retry n s = .ok (bs, s')) : Clean retry s' :=
  ⟨readExactG_rest_all _ (fun _ => rfl) h hc.1, fun hr => readExactG_rest_all _ (fun _ => rfl) h (hc.2 hr)⟩

/-- a clean script fails a read only by ending, and the read then goes on into `t` -/
theorem readExactG_runs_out {retry : Bool} {n : Nat} {s t : Source} {k e : IoKind}
    (ht : ∀ m, readExactG retry (m + 1) t = .error e) (hc : Clean retry s) (h : readExactG retry n s = .error k) :
    (Source.flat s).length < n ∧ readExactG retry n (s ++ t) = .error e := by
  fun_induction readExactG retry n s generalizing k <;> (try cases h) <;>
    (try simp only [List.cons_append, readExactG, Source.flat])
  case case2 m => exact ⟨Nat.zero_lt_succ _, ht m⟩  -- the script has ended
  case case3 hb ih => rw [if_pos ‹_›, if_pos hb, List.isEmpty_iff.mp hb]; exact ih hc.tail h  -- an empty chunk
  case case5 hr ih =>  -- a chunk used up
    obtain ⟨h1, h2⟩ := ih hc.tail hr
    rw [if_pos ‹_›, if_neg ‹_›, h2, List.length_append]
    exact ⟨Nat.add_lt_of_lt_sub' h1, rfl⟩
  case case7 ih => exact ih hc.tail h  -- `Pending`
  case case8 ih => rw [if_pos ‹_›]; exact ih hc.tail h  -- `Interrupted`, retried
  case case9 => cases hc.2 (Bool.eq_false_iff.mpr ‹_›)  -- `Interrupted`, returned
  case case10 => cases hc.1  -- a failure

/-- how a scripted state and a flat state correspond while the script is still in its clean part -/
def RCut (retry : Bool) (t : Source) (r1 : Source) (r2 : Bytes) : Prop :=
  ∃ s', r1 = s' ++ t ∧ Clean retry s' ∧ Source.flat s' = r2

theorem g_cut_sim (retry : Bool) (t : Source) (e : IoKind) (ht : ∀ m, readExactG retry (m + 1) t = .error e) :
    Sim (gRd retry) (cutRd e) (RCut retry t) := by
  intro n r1 r2 ⟨s, h1, hc, h3⟩
  subst h1 h3
  simp only [gRd, cutRd]
  cases hr : readExactG retry n s with
  | ok p =>
    obtain ⟨hl, hf⟩ := readExactG_ok hr
    rw [readExactG_append hr t, hf, if_pos (by rw [List.length_append]; omega), List.take_left' hl]
    exact .ok ⟨rfl, p.2, rfl, hc.rest hr, (List.drop_left' hl).symm⟩
  | error k =>
    obtain ⟨hlt, he⟩ := readExactG_runs_out ht hc hr
    rw [he, if_neg (Nat.not_le_of_gt hlt)]
    exact .err _

theorem readExactG_noIntr (retry : Bool) (n : Nat) (src : Source) (hi : noIntr src = true) :
    readExactG retry n src = readExactG true n src := by
  fun_induction readExactG retry n src <;> simp only [readExactG, ↓reduceIte] <;> (try simp only [noIntr_cons] at hi)
  case case3 ih => rw [if_pos ‹_›, if_pos ‹_›]; exact ih hi.2  -- an empty chunk
  case case4 hr ih | case5 hr ih => rw [if_pos ‹_›, if_neg ‹_›, ← ih hi.2, hr]  -- a chunk used up
  case case6 => rw [if_neg ‹_›]  -- a chunk larger than the request
  case case7 ih | case8 ih => exact ih hi.2  -- `Pending`; `Interrupted`, retried
  case case9 => cases hi.1  -- `Interrupted`, returned

theorem fut_std_sim : Sim (gRd false) (gRd true) (fun r1 r2 => noIntr r1 = true ∧ r1 = r2) := by
  intro n r1 r2 ⟨hi, h⟩
  subst h
  simp only [gRd, readExactG_noIntr false n r1 hi]
  cases hr : readExactG true n r1 with
  | error k => exact .err _
  | ok p => exact .ok ⟨rfl, readExactG_rest_all _ (fun _ => rfl) hr hi, rfl⟩

theorem readExactStd_deliver (n : Nat) (src : Source) :
    readExactStd n (deliver src) =
      match readExactStd n src with
      | .ok (bs, s') => .ok (bs, deliver s')
      | .error k => .error k := by
  fun_induction readExactStd n src <;>
    simp only [deliver_cons, Ev.isPending, Bool.false_eq_true, if_false, if_true, readExactStd]
  case case2 => rfl  -- the script has ended
  case case3 ih => rw [if_pos ‹_›, if_pos ‹_›]; exact ih  -- an empty chunk
  case case4 hr ih | case5 hr ih => rw [if_pos ‹_›, if_neg ‹_›, ih, hr]  -- a chunk used up
  case case6 => rw [if_neg ‹_›]  -- a chunk larger than the request
  case case7 ih | case8 ih => exact ih  -- `Pending`; `Interrupted`

theorem std_deliver_sim : Sim stdRd stdRd (fun r1 r2 => deliver r1 = r2) := by
  intro n r1 _ rfl
  simp only [stdRd, readExactStd_deliver]
  cases readExactStd n r1 with
  | error k => exact .err _
  | ok p => exact .ok ⟨rfl, rfl⟩

end Ipp
