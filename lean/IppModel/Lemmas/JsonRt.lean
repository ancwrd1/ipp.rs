/-
  JSON round trip of the serde model (the development behind C20): the decoder, applied to the encoder's
  output, gives the value back, kind by kind, with arrays and collections by induction (`rt_value`, `rt_values`,
  `rt_members`); hence the round trip of groups whose maps are canonical (`mapsCanonical`).
-/
import IppModel.Model.Json
import IppModel.Spec.ToWire
import IppModel.Lemmas.SMap
namespace Ipp
open Gen Spec

/-- typing invariants of the in-memory maps: every group's attribute map has unique names (canonical,
    strictly sorted) and every collection (`BTreeMap`) is strictly sorted by member name -/
def mapsCanonical (gs : List Group) : Bool :=
  gs.all fun g => sortedB g.attrs && g.attrs.all fun p => collsSorted p.2

namespace JsonRt

/-- two's complement of width `m + m` read as a signed number and written back; `f` is the cast of the result -/
theorem twos_rt {α} (f : Nat → α) (m x : Nat) (hx : x < m + m) :
    let n : Int := if x < m then x else (x : Int) - (m + m : Nat)
    (if 0 ≤ n ∧ n < m then some (f n.toNat)
      else if -m ≤ n ∧ n < 0 then some (f (n + (m + m : Nat)).toNat) else none) = some (f x) := by
  intro n
  by_cases h : x < m
  · have hn : n = x := if_pos h
    rw [hn, if_pos ⟨Int.natCast_nonneg x, Int.ofNat_lt.mpr h⟩, Int.toNat_natCast]
  · have hn : n = (x : Int) - (m + m : Nat) := if_neg h
    rw [if_neg (by omega), if_pos (by omega), hn, Int.sub_add_cancel, Int.toNat_natCast]

theorem intToI32_i32ToInt (v : UInt32) : intToI32 (i32ToInt v) = some v :=
  (twos_rt UInt32.ofNat 2147483648 v.toNat v.toNat_lt).trans (congrArg some UInt32.ofNat_toNat)

theorem intToI8_i8ToInt (v : UInt8) : intToI8 (i8ToInt v) = some v :=
  (twos_rt UInt8.ofNat 128 v.toNat v.toNat_lt).trans (congrArg some UInt8.ofNat_toNat)

theorem jnat_nat (bound n : Nat) (h : n < bound) : jnat bound (.num n) = some n := by
  simp [jnat, h]

theorem jnat_u8 (x : UInt8) : jnat 256 (.num x.toNat) = some x.toNat := jnat_nat _ _ x.toNat_lt
theorem jnat_u16 (x : UInt16) : jnat 65536 (.num x.toNat) = some x.toNat := jnat_nat _ _ x.toNat_lt
theorem jnat_u32 (x : UInt32) : jnat 4294967296 (.num x.toNat) = some x.toNat := jnat_nat _ _ x.toNat_lt

theorem jsonToBytes_rt (d : Bytes) : jsonToBytes (bytesToJson d) = some d := by
  induction d with
  | nil => rfl
  | cons b r ih => simp only [bytesToJson, jsonToBytes, jnat_u8, ih, UInt8.ofNat_toNat]

/-! The decoder dispatches on literal keys: applied to the encoder's output it is evaluated (`rfl`; `eq_refl`
    where the other closing rules `rfl` tries first are dear; `conv => lhs; whnf` up to the first field that
    is a variable: the unifier gets there too, by `exact`, at twice the work), and what is left are the round
    trips of the numbers and of the elements. -/

mutual
theorem rt_value : (v : Value) → collsSorted v = true → jsonToValue (valueToJson v) = some v
  | .int k v, _ => by
    cases k
    all_goals
      conv => lhs; whnf
      rw [intToI32_i32ToInt]
  | .bool b, _ => rfl
  | .str k s, _ => by cases k <;> eq_refl
  | .lang k l t, _ => by cases k <;> eq_refl
  | .range lo hi, _ => by
    conv => lhs; whnf
    simp only [intToI32_i32ToInt]
  | .dateTime y mo d h mi s ds dir uh um, _ => by
    conv => lhs; whnf
    simp +decide only [jget, ↓reduceIte, Option.bind, jnat_u8, jnat_u16, UInt8.ofNat_toNat, UInt16.ofNat_toNat]
  | .resolution c f u, _ => by
    conv => lhs; whnf
    simp only [intToI32_i32ToInt, intToI8_i8ToInt]
  | .noValue, _ => rfl
  | .other t d, _ => by
    conv => lhs; whnf
    simp +decide only [jget, ↓reduceIte, Option.bind, jnat_u8, jsonToBytes_rt, UInt8.ofNat_toNat, Option.map]
  | .array vs, h => by
    conv => lhs; whnf
    rw [rt_values vs h]
  | .coll ms, h => by
    obtain ⟨hs, hm⟩ := Bool.and_eq_true_iff.mp h
    conv => lhs; whnf
    simp only [rt_members ms hm, sinsertAll_self hs]
theorem rt_values : (vs : List Value) → collsSortedL vs = true → jsonToValues (valuesToJson vs) = some vs
  | [], _ => rfl
  | v :: vs, h => by
    obtain ⟨hv, hvs⟩ := Bool.and_eq_true_iff.mp h
    conv => lhs; whnf
    rw [rt_value v hv, rt_values vs hvs]
theorem rt_members : (ms : List (Bytes × Value)) → collsSortedM ms = true → jsonToMembers (membersToJson ms) = some ms
  | [], _ => rfl
  | (k, v) :: ms, h => by
    obtain ⟨hv, hms⟩ := Bool.and_eq_true_iff.mp h
    conv => lhs; whnf
    rw [rt_value v hv, rt_members ms hms]
end

theorem jsonToAttrs_rt (as : List (Bytes × Value)) (h : as.all (fun p => collsSorted p.2) = true) :
    jsonToAttrs (attrsToJson as) = some (as.map fun p => (p.1, (p.1, p.2))) := by
  induction as with
  | nil => rfl
  | cons p r ih =>
    obtain ⟨n, v⟩ := p
    rw [List.all_cons, Bool.and_eq_true] at h
    simp +decide only [attrsToJson, jsonToAttrs, jget, ↓reduceIte, Option.bind, jstr, rt_value v h.1, ih h.2,
      List.map_cons]

theorem delim_rt (t : DelimiterTag) : DelimiterTag.all.find? (fun d => d.ident == t.ident) = some t := by
  cases t <;> decide

theorem jsonToGroup_rt (g : Group) (hs : sortedB g.attrs = true) (hc : g.attrs.all (fun p => collsSorted p.2) = true) :
    jsonToGroup (groupToJson g) = some g := by
  obtain ⟨tag, attrs⟩ := g
  have hall : (attrs.map fun p => (p.1, (p.1, p.2))).all (fun p => p.1 == p.2.1) = true :=
    List.all_map.trans (List.all_eq_true.mpr fun _ _ => bytes_beq_iff.mpr rfl)
  have hmap : ((attrs.map fun p => (p.1, (p.1, p.2))).map fun p => (p.1, p.2.2)) = attrs :=
    List.map_map.trans (List.map_id'' (fun _ => rfl) attrs)
  simp +decide only [groupToJson, jsonToGroup, jget, ↓reduceIte, Option.bind, jstr, delim_rt,
    jsonToAttrs_rt attrs hc, hall, hmap, sinsertAll_self hs]

theorem jsonToGroups_rt (gs : List Group) (hc : mapsCanonical gs = true) :
    jsonToGroups (groupsToJson gs) = some gs := by
  induction gs with
  | nil => rfl
  | cons g r ih =>
    rw [mapsCanonical, List.all_cons, Bool.and_eq_true, Bool.and_eq_true] at hc
    simp only [groupsToJson, jsonToGroups, jsonToGroup_rt g hc.1.1 hc.1.2, ih hc.2]

end JsonRt

end Ipp
