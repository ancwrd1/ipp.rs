/-
  Token-level semantics of the parser state: running the tokens of a wire value / attribute on `PState`
  yields the interpretation of the wire tree.
-/
import IppModel.Lemmas.Flat
import IppModel.Lemmas.DecodeSpec
import IppModel.Lemmas.WfWire
namespace Ipp
open Gen Spec

theorem begBracket_u8 : begBracket.u8 = 0x34 := rfl
theorem endBracket_u8 : endBracket.u8 = 0x37 := rfl

theorem pMachine_value (s : PState) (t : UInt8) (name b : Bytes) :
    pMachine.value s t name b = (decodeValue t b).bind (valueTail (nameStep s (lossy name)) t) :=
  parseValue_eq ..

theorem value_named (s : PState) (t : UInt8) (name b : Bytes) (hn : name.isEmpty = false) :
    pMachine.value s t name b =
      pMachine.value { s.addLastAttribute with lastName := some (lossy name) } t [] b := by
  rw [pMachine_value, pMachine_value, nameStep, lossy_isEmpty, hn]
  rfl

/-- the members as the flat value list the parser collects between the brackets and `collect` regroups:
    each name as a member-name value, followed by the member's values -/
def flatMs : List (Bytes × List WVal) → List Value
  | [] => []
  | (k, vs) :: ms => .str .memberAttrName (lossy k) :: (interpVs vs ++ flatMs ms)

theorem collectGo_val (v : Value) (hv : isMName v = false) (rest : List Value) (m : List (Bytes × Value))
    (k : Bytes) (acc : List Value) :
    collectGo (v :: rest) m (some (k, acc)) = collectGo rest m (some (k, acc ++ [v])) := by
  rw [collectGo]
  rintro name rfl
  cases hv

theorem collectGo_vals (vs : List Value) (hv : ∀ v ∈ vs, isMName v = false) (rest : List Value)
    (m : List (Bytes × Value)) (k : Bytes) (acc : List Value) :
    collectGo (vs ++ rest) m (some (k, acc)) = collectGo rest m (some (k, acc ++ vs)) := by
  induction vs generalizing acc with
  | nil => rw [List.nil_append, List.append_nil]
  | cons v vs ih =>
    obtain ⟨h1, h2⟩ := List.forall_mem_cons.mp hv
    rw [List.cons_append, collectGo_val v h1, ih h2, List.append_assoc]
    rfl

theorem interpV_notMName (v : WVal) (h : wfV true v = true) : isMName (interpV v) = false := by
  cases v with
  | plain t b =>
    obtain ⟨-, -, -, h4a, -⟩ := wfV_plain.mp h
    exact decodePlain_not_memberName t b (h4a rfl)
  | coll ms => rfl

theorem interpVs_notMName (vs : List WVal) (h : wfVs true vs = true) : ∀ v ∈ interpVs vs, isMName v = false := by
  induction vs with
  | nil => exact nofun
  | cons w ws ih =>
    obtain ⟨hw, hws⟩ := wfVs_cons.mp h
    exact List.forall_mem_cons.mpr ⟨interpV_notMName w hw, ih hws⟩

theorem collectGo_flatMs (ms : List (Bytes × List WVal)) (h : wfMs ms = true) (m : List (Bytes × Value))
    (cur : Option (Bytes × List Value)) :
    collectGo (flatMs ms) m cur = interpMs ms (flushMember m cur) := by
  induction ms generalizing m cur with
  | nil => rfl
  | cons p ms ih =>
    obtain ⟨k, vs⟩ := p
    obtain ⟨-, hne, hvs, hms⟩ := wfMs_cons.mp h
    simp only [flatMs, collectGo, interpMs]
    rw [collectGo_vals _ (interpVs_notMName vs hvs), ih hms]
    cases vs with
    | nil => exact absurd rfl hne
    | cons v vs' => rfl

theorem collect_flatMs (ms : List (Bytes × List WVal)) (h : wfMs ms = true) :
    collect (flatMs ms) = interpMs ms [] :=
  collectGo_flatMs ms h [] none

/-- running `ts` appends `vals` to the top of the context stack and changes nothing else -/
abbrev Pushes (ts : List Tok) (vals : List Value) : Prop :=
  ∀ (cg : Option Group) (ln : Option Bytes) (top : List Value) (rest : List (List Value)) (gs : List Group),
    runToks pMachine ts ⟨cg, ln, top :: rest, gs⟩ = .ok ⟨cg, ln, (top ++ vals) :: rest, gs⟩

theorem Pushes.nil : Pushes [] [] := fun cg ln top rest gs => by
  rw [runToks, List.append_nil]

theorem Pushes.append {a b : List Tok} {x y : List Value} (ha : Pushes a x) (hb : Pushes b y) :
    Pushes (a ++ b) (x ++ y) := fun cg ln top rest gs => by
  rw [runToks_append, ha, Outcome.bind, hb, List.append_assoc]

theorem Pushes.plain {t : UInt8} {b : Bytes} {v : Value} (h34 : t ≠ 0x34) (h37 : t ≠ 0x37)
    (hd : decodeValue t b = .ok v) : Pushes [⟨t, [], b⟩] [v] := fun cg ln top rest gs => by
  rw [runToks, pMachine_value, hd, Outcome.bind, valueTail, begBracket_u8, endBracket_u8, if_neg h34, if_neg h37]
  rfl

/-- between its brackets a collection's fields fill a fresh array, which the end bracket groups -/
theorem Pushes.coll {ts : List Tok} {arr : List Value} (h : Pushes ts arr) :
    Pushes (⟨0x34, [], []⟩ :: (ts ++ [⟨0x37, [], []⟩])) [.coll (collect arr)] := fun cg ln top rest gs => by
  show runToks pMachine (ts ++ [⟨0x37, [], []⟩]) ⟨cg, ln, [] :: top :: rest, gs⟩ = _
  rw [runToks_append, h, Outcome.bind]
  rfl

mutual
theorem run_V (c : Bool) (v : WVal) (h : wfV c v = true) : Pushes (toksV [] v) [interpV v] := by
  cases v with
  | plain t b =>
    obtain ⟨-, h34, h37, -, -, hb⟩ := wfV_plain.mp h
    exact .plain h34 h37 (decodeValue_plain t b h34 h37 hb)
  | coll ms =>
    rw [interpV, ← collect_flatMs ms h]
    exact .coll (run_Ms ms h)
theorem run_Vs (c : Bool) (vs : List WVal) (h : wfVs c vs = true) : Pushes (toksVs vs) (interpVs vs) := by
  cases vs with
  | nil => exact .nil
  | cons v vs =>
    obtain ⟨hv, hvs⟩ := wfVs_cons.mp h
    exact (run_V c v hv).append (run_Vs c vs hvs)
/-- `Pushes (toksMs ms) (flatMs ms)`, written out -/
theorem run_Ms (ms : List (Bytes × List WVal)) (h : wfMs ms = true) (cg : Option Group) (ln : Option Bytes)
    (top : List Value) (rest : List (List Value)) (gs : List Group) :
    runToks pMachine (toksMs ms) ⟨cg, ln, top :: rest, gs⟩ = .ok ⟨cg, ln, (top ++ flatMs ms) :: rest, gs⟩ := by
  cases ms with
  | nil => exact Pushes.nil cg ln top rest gs
  | cons p ms =>
    obtain ⟨k, vs⟩ := p
    obtain ⟨-, -, hvs, hms⟩ := wfMs_cons.mp h
    exact (Pushes.plain (by decide) (by decide) (decodeValue_str .memberAttrName k)).append
      ((run_Vs true vs hvs).append (run_Ms ms hms)) cg ln top rest gs
end

/-- the parser state inside a group: finished groups, the open group's tag and map, and the pending
    attribute (name and values read so far) -/
def mkSt (gs : List Group) (t : DelimiterTag) (m : List (Bytes × Value)) : Option (Bytes × List Value) → PState
  | none => ⟨some ⟨t, m⟩, none, [[]], gs⟩
  | some (n, vals) => ⟨some ⟨t, m⟩, some n, [vals], gs⟩

/-- the open group's map once the pending attribute is added -/
def flushP (m : List (Bytes × Value)) : Option (Bytes × List Value) → List (Bytes × Value)
  | none => m
  | some (n, vals) => sinsert n (listOrValue vals) m

theorem mkSt_addLast (gs : List Group) (t : DelimiterTag) (m : List (Bytes × Value))
    (pend : Option (Bytes × List Value)) :
    (mkSt gs t m pend).addLastAttribute = mkSt gs t (flushP m pend) none := by
  cases pend <;> rfl

theorem runToks_toksV_named (s : PState) (name : Bytes) (hn : name.isEmpty = false) (v : WVal) (ts : List Tok) :
    runToks pMachine (toksV name v ++ ts) s =
      runToks pMachine (toksV [] v ++ ts) { s.addLastAttribute with lastName := some (lossy name) } := by
  cases v <;> simp only [toksV, List.cons_append, runToks, value_named s _ name _ hn]

theorem run_attr (a : WAttr) (h : wfAttr a = true) (gs : List Group) (t : DelimiterTag)
    (m : List (Bytes × Value)) (pend : Option (Bytes × List Value)) :
    runToks pMachine (toksAttr a) (mkSt gs t m pend) =
      .ok (mkSt gs t (flushP m pend) (some (lossy a.name, interpVs a.vals))) := by
  obtain ⟨name, vals⟩ := a
  obtain ⟨hn, -, v, vs, rfl, hv, hvs⟩ := wfAttr_iff.mp h
  rw [toksAttr, runToks_toksV_named _ name hn, mkSt_addLast]
  exact (run_V false v hv).append (run_Vs false vs hvs) _ _ [] [] gs

/-- running the attributes of a group: the map with the pending attribute added is the spec's fold -/
theorem run_attrs (as : List WAttr) (h : wfAttrs as = true) (gs : List Group) (t : DelimiterTag)
    (m : List (Bytes × Value)) (pend : Option (Bytes × List Value)) :
    ∃ m' pend', runToks pMachine (toksAttrs as) (mkSt gs t m pend) = .ok (mkSt gs t m' pend') ∧
      flushP m' pend' = interpAttrs as (flushP m pend) := by
  induction as generalizing m pend with
  | nil => exact ⟨m, pend, rfl, rfl⟩
  | cons a as ih =>
    obtain ⟨ha, has⟩ := wfAttrs_cons.mp h
    obtain ⟨m', pend', h1, h2⟩ := ih has (flushP m pend) (some (lossy a.name, interpVs a.vals))
    refine ⟨m', pend', ?_, h2⟩
    rw [toksAttrs, runToks_append, run_attr a ha, Outcome.bind, h1]

end Ipp
