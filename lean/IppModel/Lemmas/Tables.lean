/-
  What `tableOk` (Spec/Tables.lean) says, as statements about membership, for any two tables.
-/
import IppModel.Spec.Tables
namespace Ipp.Spec


theorem nodupB_inj {α β} [BEq β] [LawfulBEq β] {f : α → β} :
    ∀ {l : List α}, nodupB (l.map f) = true → ∀ a ∈ l, ∀ b ∈ l, f a = f b → a = b
  | [], _, _, ha, _, _, _ => by cases ha
  | x :: r, h, a, ha, b, hb, e => by
    simp only [List.map_cons, nodupB, Bool.and_eq_true, Bool.not_eq_true', List.contains_eq_mem,
      decide_eq_false_iff_not, List.mem_map, not_exists, not_and] at h
    rcases List.mem_cons.mp ha with rfl | ha' <;> rcases List.mem_cons.mp hb with rfl | hb'
    · rfl
    · exact absurd e.symm (h.1 b hb')
    · exact absurd e (h.1 a ha')
    · exact nodupB_inj h.2 a ha' b hb' e

structure TableFacts (lib reg : List (Bytes × Nat)) : Prop where
  sub : ∀ p ∈ reg, p ∈ lib
  /-- a library entry and a registry entry with the same code or the same symbol are the same entry -/
  code : ∀ q ∈ lib, ∀ p ∈ reg, p.2 = q.2 → p = q
  sym : ∀ q ∈ lib, ∀ p ∈ reg, p.1 = q.1 → p = q

theorem tableOk_facts {lib reg : List (Bytes × Nat)} (h : tableOk lib reg = true) : TableFacts lib reg := by
  simp only [tableOk, Bool.and_eq_true, List.all_eq_true, List.contains_iff_mem] at h
  obtain ⟨⟨⟨⟨⟨hsub, _⟩, hlc⟩, hls⟩, _⟩, _⟩ := h
  exact ⟨hsub, fun q hq p hp => nodupB_inj hlc p (hsub p hp) q hq, fun q hq p hp => nodupB_inj hls p (hsub p hp) q hq⟩

end Ipp.Spec
