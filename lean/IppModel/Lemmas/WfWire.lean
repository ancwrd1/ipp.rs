/-
  Well-formedness of wire trees (`wfV` … `wfGroups` of Spec/Wire.lean) as propositions, one constructor at a
  time: what a proof by induction on the tree takes from its hypothesis; and what the token stream of a
  well-formed tree is made of (`tokOk`, `toksAttrs_ok`).
-/
import IppModel.Spec.Wire
import IppModel.Model.Loop
namespace Ipp
open Gen Spec

theorem wfV_plain {c : Bool} {t : UInt8} {b : Bytes} : wfV c (.plain t b) = true ↔
    valueTagOk t = true ∧ t ≠ 0x34 ∧ t ≠ 0x37 ∧ (c = true → t ≠ 0x4a) ∧ b.length < 65536 ∧ wfBody t b = true := by
  simp only [wfV, Bool.and_eq_true, Bool.or_eq_true, Bool.not_eq_true', bne_iff_ne, decide_eq_true_eq, and_assoc,
    ← Bool.not_eq_true, ← Decidable.imp_iff_not_or]

theorem wfV_coll {c : Bool} {ms : List (Bytes × List WVal)} : wfV c (.coll ms) = wfMs ms := rfl

theorem wfVs_cons {c : Bool} {v : WVal} {vs : List WVal} :
    wfVs c (v :: vs) = true ↔ wfV c v = true ∧ wfVs c vs = true :=
  Bool.and_eq_true_iff

theorem wfMs_cons {k : Bytes} {vs : List WVal} {ms : List (Bytes × List WVal)} :
    wfMs ((k, vs) :: ms) = true ↔ k.length < 65536 ∧ vs ≠ [] ∧ wfVs true vs = true ∧ wfMs ms = true := by
  simp only [wfMs, Bool.and_eq_true, decide_eq_true_eq, Bool.not_eq_true', List.isEmpty_eq_false_iff, and_assoc]

/-- `name.isEmpty = false` and not `name ≠ []`: it is how the parser and `treeAttrs` test the name -/
theorem wfAttr_iff {name : Bytes} {vals : List WVal} : wfAttr ⟨name, vals⟩ = true ↔
    name.isEmpty = false ∧ name.length < 65536 ∧
      ∃ v vs, vals = v :: vs ∧ wfV false v = true ∧ wfVs false vs = true := by
  cases vals <;> simp [wfAttr, wfVs, and_assoc]

theorem wfAttrs_cons {a : WAttr} {as : List WAttr} :
    wfAttrs (a :: as) = true ↔ wfAttr a = true ∧ wfAttrs as = true :=
  Bool.and_eq_true_iff

theorem delimOf_isSome {tag : UInt8} :
    (delimOf tag).isSome = true ↔ tag = 0x01 ∨ tag = 0x02 ∨ tag = 0x04 ∨ tag = 0x05 := by
  refine ⟨fun h => Decidable.by_contra fun hn => ?_, ?_⟩
  · simp only [not_or] at hn
    rw [delimOf, if_neg hn.1, if_neg hn.2.1, if_neg hn.2.2.1, if_neg hn.2.2.2] at h
    cases h
  · rintro (rfl | rfl | rfl | rfl) <;> rfl

theorem wfGroups_cons {g : WGroup} {gs : List WGroup} : wfGroups (g :: gs) = true ↔
    (g.tag = 0x01 ∨ g.tag = 0x02 ∨ g.tag = 0x04 ∨ g.tag = 0x05) ∧ wfAttrs g.attrs = true ∧ wfGroups gs = true := by
  rw [wfGroups, wfGroup, Bool.and_eq_true, Bool.and_eq_true, delimOf_isSome, and_assoc]

/-! ### the token stream of a well-formed tree: every token is a value token for the parser's dispatch -/

theorem toksBytes_append (a b : List Tok) : toksBytes (a ++ b) = toksBytes a ++ toksBytes b := by
  induction a with
  | nil => rfl
  | cons t ts ih => simp [toksBytes, ih]

/-- the token is read as a value token by a loop with dispatch `cfg`, and its length fields fit -/
def tokOk (cfg : LoopCfg) (t : Tok) : Bool :=
  decide (cfg.valueLo ≤ t.tag.toNat) && decide (t.tag.toNat ≤ cfg.valueHi) &&
  !(decide (cfg.delimLo ≤ t.tag.toNat) && decide (t.tag.toNat ≤ cfg.delimHi)) &&
  decide (t.name.length < 65536) && decide (t.body.length < 65536)

/-- the blocking parser's dispatch takes a field for a value exactly when the RFC's value-tag range does -/
theorem tokOk_syncLoop {t : UInt8} {name body : Bytes} : tokOk syncLoop ⟨t, name, body⟩ = true ↔
    valueTagOk t = true ∧ name.length < 65536 ∧ body.length < 65536 := by
  simp only [tokOk, valueTagOk, Bool.and_eq_true, decide_eq_true_eq, Bool.not_eq_true', Bool.and_eq_false_iff,
    decide_eq_false_iff_not, UInt8.le_iff_toNat_le, UInt8.reduceToNat, and_assoc]
  -- not before: with the bounds unfolded under `decide`, `decide_eq_true_eq` no longer matches
  simp only [syncLoop]
  omega

mutual
theorem toksV_ok (c : Bool) (name : Bytes) (hn : name.length < 65536) (v : WVal) (h : wfV c v = true) :
    (toksV name v).all (tokOk syncLoop) = true := by
  cases v with
  | plain t b =>
    obtain ⟨ht, -, -, -, hb, -⟩ := wfV_plain.mp h
    simp only [toksV, List.all_cons, List.all_nil, Bool.and_true]
    exact tokOk_syncLoop.mpr ⟨ht, hn, hb⟩
  | coll ms =>
    simp only [toksV, List.all_cons, List.all_append, List.all_nil, Bool.and_true, toksMs_ok ms h, Bool.and_eq_true]
    exact ⟨tokOk_syncLoop.mpr ⟨by decide, hn, by decide⟩, trivial, tokOk_syncLoop.mpr (by decide)⟩
theorem toksVs_ok (c : Bool) (vs : List WVal) (h : wfVs c vs = true) :
    (toksVs vs).all (tokOk syncLoop) = true := by
  cases vs with
  | nil => rfl
  | cons v vs =>
    obtain ⟨hv, hvs⟩ := wfVs_cons.mp h
    rw [toksVs, List.all_append, toksV_ok c [] (by decide) v hv, toksVs_ok c vs hvs]
    rfl
theorem toksMs_ok (ms : List (Bytes × List WVal)) (h : wfMs ms = true) :
    (toksMs ms).all (tokOk syncLoop) = true := by
  cases ms with
  | nil => rfl
  | cons p ms =>
    obtain ⟨k, vs⟩ := p
    obtain ⟨hk, -, hvs, hms⟩ := wfMs_cons.mp h
    rw [toksMs, List.all_cons, List.all_append, toksVs_ok true vs hvs, toksMs_ok ms hms,
      tokOk_syncLoop.mpr ⟨by decide, by decide, hk⟩]
    rfl
end

theorem toksAttr_ok (a : WAttr) (h : wfAttr a = true) : (toksAttr a).all (tokOk syncLoop) = true := by
  obtain ⟨name, vals⟩ := a
  obtain ⟨-, hn, v, vs, rfl, hv, hvs⟩ := wfAttr_iff.mp h
  rw [toksAttr, List.all_append, toksV_ok false name hn v hv, toksVs_ok false vs hvs]
  rfl

theorem toksAttrs_ok (as : List WAttr) (h : wfAttrs as = true) : (toksAttrs as).all (tokOk syncLoop) = true := by
  induction as with
  | nil => rfl
  | cons a as ih =>
    obtain ⟨ha, has⟩ := wfAttrs_cons.mp h
    rw [toksAttrs, List.all_append, toksAttr_ok a ha, ih has]
    rfl

end Ipp
