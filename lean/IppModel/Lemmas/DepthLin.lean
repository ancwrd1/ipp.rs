/-
  The nesting depth of every value the parser returns is bounded by the number of bytes consumed.

  Potential argument: `psi s` is the sum of the depths of all values held anywhere in the parser state
  (collection stack, current group, finished groups).  A delimiter raises it by at most 1 (one byte),
  a value token by at most 2 (at least five bytes).
-/
import IppModel.Lemmas.Total
namespace Ipp
open Gen

/-! Σ depth over a list of values (`sumL`), a map (`sumM`), the collection stack (`sumC`), a list of groups
    (`sumG`) and the open group (`sumO`). -/

def sumL : List Value → Nat
  | [] => 0
  | v :: vs => depth v + sumL vs

def sumM : List (Bytes × Value) → Nat
  | [] => 0
  | p :: ms => depth p.2 + sumM ms

def sumC : List (List Value) → Nat
  | [] => 0
  | l :: r => sumL l + sumC r

def sumG : List Group → Nat
  | [] => 0
  | g :: r => sumM g.attrs + sumG r

def sumO : Option Group → Nat
  | none => 0
  | some g => sumM g.attrs

/-- sum of the depths of all values held in a parser state -/
def psi (s : PState) : Nat := sumC s.context + sumO s.currentGroup + sumG s.groups

theorem psi_init : psi PState.init = 0 := rfl

theorem sumL_append (a b : List Value) : sumL (a ++ b) = sumL a + sumL b := by
  induction a with
  | nil => exact (Nat.zero_add _).symm
  | cons v vs ih => simp only [List.cons_append, sumL, ih, Nat.add_assoc]

theorem sumG_append (a b : List Group) : sumG (a ++ b) = sumG a + sumG b := by
  induction a with
  | nil => exact (Nat.zero_add _).symm
  | cons v vs ih => simp only [List.cons_append, sumG, ih, Nat.add_assoc]

theorem depthL_le_sumL (vs : List Value) : depthL vs ≤ sumL vs := by
  induction vs with
  | nil => exact Nat.le_refl 0
  | cons v vs ih =>
    simp only [depthL, sumL]
    exact Nat.max_le.mpr ⟨Nat.le_add_right .., Nat.le_add_left_of_le ih⟩

theorem depthM_le_sumM (ms : List (Bytes × Value)) : depthM ms ≤ sumM ms := by
  induction ms with
  | nil => exact Nat.le_refl 0
  | cons p ms ih =>
    simp only [depthM, sumM]
    exact Nat.max_le.mpr ⟨Nat.le_add_right .., Nat.le_add_left_of_le ih⟩

theorem depth_le_sumM (ms : List (Bytes × Value)) (p : Bytes × Value) (h : p ∈ ms) : depth p.2 ≤ sumM ms := by
  induction ms with
  | nil => cases h
  | cons q ms ih =>
    rcases List.mem_cons.mp h with rfl | h'
    · exact Nat.le_add_right ..
    · exact Nat.le_add_left_of_le (ih h')

theorem sumM_le_sumG (gs : List Group) (g : Group) (h : g ∈ gs) : sumM g.attrs ≤ sumG gs := by
  induction gs with
  | nil => cases h
  | cons q gs ih =>
    rcases List.mem_cons.mp h with rfl | h'
    · exact Nat.le_add_right ..
    · exact Nat.le_add_left_of_le (ih h')

theorem depth_listOrValue : (vs : List Value) → depth (listOrValue vs) ≤ sumL vs + 1
  | [_] => Nat.le_succ _
  | [] | _ :: _ :: _ => Nat.succ_le_succ (depthL_le_sumL _)

theorem sumM_sinsert (k : Bytes) (v : Value) (m : List (Bytes × Value)) :
    sumM (sinsert k v m) ≤ depth v + sumM m := by
  induction m with
  | nil => exact Nat.le_refl _
  | cons p r ih =>
    unfold sinsert
    split
    · exact Nat.le_refl _
    · split
      · exact Nat.add_le_add_left (Nat.le_add_left ..) _
      · simp only [sumM]
        omega

/-- what flushing the open member can add: its values, and 1 for the set `listOrValue` may wrap them in -/
def curCost : Option (Bytes × List Value) → Nat
  | some (_, vals) => 1 + sumL vals
  | none => 0

theorem sumM_flushMember (m : List (Bytes × Value)) (cur : Option (Bytes × List Value)) :
    sumM (flushMember m cur) ≤ sumM m + curCost cur := by
  rcases cur with _ | ⟨k, vals⟩
  · exact Nat.le_refl _
  · simp only [flushMember, curCost]
    split
    · exact Nat.le_add_right ..
    · have h1 := sumM_sinsert k (listOrValue vals) m
      have h2 := depth_listOrValue vals
      omega

theorem sumM_collectGo (arr : List Value) (m : List (Bytes × Value)) (cur : Option (Bytes × List Value)) :
    sumM (collectGo arr m cur) ≤ sumL arr + sumM m + curCost cur := by
  -- the list has ended; a member name opens a member; a value joins the open member; a value before any name is dropped
  fun_induction collectGo arr m cur
  case case1 m cur =>
    have := sumM_flushMember m cur
    simp only [sumL]
    omega
  case case2 name rest m cur ih =>
    have := sumM_flushMember m cur
    have h3 : curCost (some (name, ([] : List Value))) = 1 := rfl
    simp only [h3, sumL, depth] at ih ⊢
    omega
  case case3 ih =>
    simp only [curCost, sumL_append, sumL] at ih ⊢
    omega
  case case4 ih =>
    simp only [sumL]
    omega

theorem depth_coll_collect (arr : List Value) : depth (.coll (collect arr)) ≤ sumL arr + 1 := by
  have h1 := sumM_collectGo arr [] none
  have h2 := depthM_le_sumM (collect arr)
  simp only [depth, collect, sumM, curCost] at h1 h2 ⊢
  omega

theorem psi_addLastAttribute (s : PState) : psi s.addLastAttribute ≤ psi s + 1 := by
  obtain ⟨cg, ln, ctx, gs⟩ := s
  cases ln with
  | none => exact Nat.le_succ _
  | some n =>
    cases ctx with
    | nil => exact Nat.le_succ _
    | cons vl rest =>
      cases cg with
      | none =>
        simp only [PState.addLastAttribute, psi, sumC, sumL, Option.map, sumO]
        omega
      | some g =>
        have h1 := sumM_sinsert n (listOrValue vl) g.attrs
        have h2 := depth_listOrValue vl
        simp only [PState.addLastAttribute, psi, sumC, sumL, Option.map, sumO]
        omega

theorem psi_nameStep (s : PState) (name : Bytes) : psi (nameStep s name) ≤ psi s + 1 := by
  unfold nameStep
  split
  · exact Nat.le_succ _
  · exact psi_addLastAttribute s

theorem psi_valueTail {s1 s' : PState} {tag : UInt8} {v : Value} (hv : depth v = 1)
    (h : TailStep s1 tag v s') : psi s' ≤ psi s1 + 1 := by
  cases h with
  | opened _ => simp [psi, sumC, sumL]
  | pushed top rest _ hc => simp only [psi, hc, sumC, sumL_append, sumL]; omega
  | closed arr top rest hc =>
    have := depth_coll_collect arr
    simp only [psi, hc, sumC, sumL_append, sumL]
    omega
  | closedLast a hc => simp only [psi, hc, sumC]; omega
  | idle _ => exact Nat.le_succ _

theorem psi_value_step (s : PState) (tag : UInt8) (nm b : Bytes) :
    (pMachine.value s tag nm b).Sat (fun s' => psi s' ≤ psi s + 2) fun _ => True :=
  (parseValue_sat s tag (lossy nm) b).imp (fun _ ⟨_, hv, ht⟩ =>
    Nat.le_trans (psi_valueTail hv ht) (Nat.add_le_add_right (psi_nameStep s (lossy nm)) 1)) fun _ h => h

theorem psi_delim_step (s : PState) (tag : UInt8) (s' : PState) (code : Nat)
    (h : pMachine.delim s tag = .ok (s', code)) : psi s' ≤ psi s + 1 := by
  simp only [pMachine, PState.parseDelimiter] at h
  cases hf : DelimiterTag.fromCode tag.toNat with
  | none => simp [hf] at h
  | some t =>
    simp only [hf, Except.ok.injEq, Prod.mk.injEq] at h
    obtain ⟨rfl, _⟩ := h
    have h1 := psi_addLastAttribute s
    -- the open group joins the finished ones
    cases hc : s.addLastAttribute.currentGroup <;> simp only [psi, hc, sumO, sumM, sumG_append, sumG] at h1 ⊢ <;> omega

/-- Through any reader that obeys the laws: the sum of the depths of all returned values, plus the eight
    header bytes, is at most what the reader has lost. -/
theorem parseWith_depth_sum {ρ : Type} {rd : Reader ρ} {size : ρ → Nat} (L : ReaderLaws rd size) (cfg : LoopCfg)
    (fuel : Nat) (r : ρ) (hf : size r < fuel) :
    (parseWith rd cfg fuel r).Sat (fun p => sumG p.1.2 + 8 + size p.2 ≤ size r) fun _ => True := by
  rw [parseWith_eq]
  refine Outcome.Sat.bind (rdHeader_shrinks L r) fun p (hp : size p.2 + 8 ≤ size r) => ?_
  refine Outcome.Sat.bind (driveLoop_pays L cfg pMachine psi 1 psi_delim_step
    (fun s t nm b => (psi_value_step s t nm b).imp (fun _ (h : _ ≤ _) => by omega) fun _ h => h)
    fuel p.2 PState.init (by omega)) fun q (hq : psi q.1 + 1 * size q.2 ≤ psi PState.init + 1 * size p.2) => ?_
  rw [psi_init] at hq
  show sumG q.1.groups + 8 + size q.2 ≤ size r
  have : sumG q.1.groups ≤ psi q.1 := Nat.le_add_left ..
  omega

/-- hence every returned value is no deeper than the number of bytes the reader has lost -/
theorem parseWith_depth {ρ : Type} {rd : Reader ρ} {size : ρ → Nat} (L : ReaderLaws rd size) (cfg : LoopCfg)
    (fuel : Nat) (r : ρ) (hf : size r < fuel) {h : Header} {gs : List Group} {rest : ρ}
    (hp : parseWith rd cfg fuel r = .ok ((h, gs), rest)) :
    ∀ g ∈ gs, ∀ p ∈ g.attrs, depth p.2 ≤ size r - size rest := by
  intro g hg p hpm
  have h1 : sumG gs + 8 + size rest ≤ size r := by
    have := parseWith_depth_sum L cfg fuel r hf
    rwa [hp] at this
  have h2 := sumM_le_sumG gs g hg
  have h3 := depth_le_sumM g.attrs p hpm
  omega

end Ipp
