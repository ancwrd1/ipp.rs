/-
  Linearity of the parser's cost model (the development behind C15).

  A potential argument.  The potential `phi` of a parser state is the number of values still sitting on the
  collection stack plus the pending flush cost; every token pays at most 8 units per byte it occupies on
  the wire (`cMachine_value_step`, `cMachine_delim_step`), which is what the loop rule `driveLoop_pays` asks for.
-/
import IppModel.Model.Cost
import IppModel.Lemmas.Total
import IppModel.Lemmas.Utf8
namespace Ipp
open Gen

/-- number of values on the collection stack -/
def stackSize (ctx : List (List Value)) : Nat := (ctx.map List.length).sum

/-- potential of a parser state: values still on the stack, plus the pending flush cost -/
def phi (s : PState) : Nat := stackSize s.context + flushCost s

theorem phi_init : phi PState.init = 0 := rfl

theorem closeCost_eq (s : PState) (tag : UInt8) (name : Bytes) :
    closeCost s tag name = if tag = endBracket.u8 then ((nameStep s name).context.headD []).length else 0 := by
  unfold closeCost
  rw [← nameStep]
  cases (nameStep s name).context <;> rfl

/-- flushing the pending attribute: the pending term leaves the potential, the stack does not grow -/
theorem phi_addLastAttribute : (s : PState) →
    phi s.addLastAttribute + flushCost s ≤ phi s ∧ flushCost s.addLastAttribute = 0
  | ⟨_, none, _, _⟩ | ⟨_, some _, [], _⟩ => ⟨Nat.le_refl _, rfl⟩
  -- the top list has moved into the attribute
  | ⟨_, some _, _ :: _, _⟩ => ⟨Nat.add_le_add_right (Nat.add_le_add_right (Nat.zero_le _) _) _, rfl⟩

/-- handling the name: amortised cost at most `1 + 2 * name.length` -/
theorem phi_nameStep (s : PState) (name : Bytes) :
    (if name.isEmpty then 0 else flushCost s + name.length) + phi (nameStep s name) ≤ phi s + 1 + 2 * name.length := by
  unfold nameStep
  split
  · omega
  · obtain ⟨h1, h2⟩ := phi_addLastAttribute s
    simp only [phi, flushCost] at h1 h2 ⊢
    omega

/-- pushing / closing: amortised cost at most 1 -/
theorem phi_valueTail {s1 s' : PState} {tag : UInt8} {v : Value} (h : TailStep s1 tag v s') :
    (if tag = endBracket.u8 then (s1.context.headD []).length else 0) + phi s' ≤ phi s1 + 1 := by
  cases h with
  | opened ht => rw [if_neg ht]; simp [phi, flushCost, stackSize]
  | pushed top rest ht hc =>
    rw [if_neg ht]
    simp only [phi, flushCost, stackSize, hc, List.map_cons, List.sum_cons, List.length_append, List.length_cons,
      List.length_nil]
    omega
  | closed _ _ _ hc | closedLast _ hc =>
    split <;>
    · simp only [phi, flushCost, stackSize, hc, List.headD_cons, List.map_cons, List.map_nil, List.sum_cons,
        List.sum_nil, List.length_append, List.length_cons, List.length_nil]
      omega
  | idle hc => split <;> simp [hc]

/-- A value token with raw name `nm` and body `b` occupies `5 + nm.length + b.length` bytes.  Where the 8 comes from:
    `lossy` at most triples the name, flushing the pending attribute costs `1 + 2·|lossy nm| ≤ 1 + 6·|nm|`
    (`phi_nameStep`), reading and pushing `|nm| + |b| + 7`; 7 per byte would do. -/
theorem cMachine_value_step (c : CState) (tag : UInt8) (nm b : Bytes) :
    (cMachine.value c tag nm b).Sat
      (fun c' => c'.cost + phi c'.st ≤ c.cost + phi c.st + 8 * (5 + nm.length + b.length)) fun _ => True := by
  simp only [cMachine]
  -- for a panic or exhausted fuel the second component is a proof of `False`: no case to write
  match c.st.parseValue tag (lossy nm) b, parseValue_sat c.st tag (lossy nm) b with
  | .ok s', ⟨v, _, ht⟩ =>
    have h1 := phi_nameStep c.st (lossy nm)
    have h2 := phi_valueTail ht
    have h3 := lossy_length_le nm
    rw [lossy_isEmpty] at h1
    simp only [Outcome.Sat, closeCost_eq]
    omega
  | .err _, _ => trivial

/-- a delimiter (one byte) -/
theorem cMachine_delim_step (c : CState) (tag : UInt8) (c' : CState) (code : Nat)
    (h : cMachine.delim c tag = .ok (c', code)) :
    c'.cost + phi c'.st ≤ c.cost + phi c.st + 8 := by
  simp only [cMachine, PState.parseDelimiter] at h
  cases hf : DelimiterTag.fromCode tag.toNat with
  | none => simp [hf] at h
  | some t =>
    simp only [hf, Except.ok.injEq, Prod.mk.injEq] at h
    obtain ⟨rfl, _⟩ := h
    have h1 := (phi_addLastAttribute c.st).1
    simp only [phi, flushCost] at h1 ⊢
    omega

end Ipp
