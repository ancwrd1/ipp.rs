/-
  Draining a message stream (the development behind C08).  One relation, `StepOK`, says what a single read
  or poll may do to a fault-free script.  It holds of the scripted sources, of the payload through either
  interface, and of the chain itself, read as the script whose first event is the unread header bytes; so
  the consumer's loop is followed once, over a script.
-/
import IppModel.Model.Stream
import IppModel.Lemmas.Sources
namespace Ipp

namespace Drain

/-- what one read / poll of a fault-free script `src` may answer, leaving `s`: call again (nothing was
    delivered and `s` is shorter), the next bytes, or the end -/
inductive StepOK (src : Source) : Option (Except IoKind Bytes) → Source → Prop
  | again {r s} : r = none ∨ r = some (.error .interrupted) → noFault s = true →
      Source.flat s = Source.flat src → s.length < src.length → StepOK src r s
  | data {b t s} : noFault s = true → b :: t ++ Source.flat s = Source.flat src → s.length ≤ src.length →
      StepOK src (some (.ok (b :: t))) s
  | eof {s} : Source.flat src = [] → StepOK src (some (.ok [])) s

theorem StepOK.skip {s src s' : Source} {r} (h : StepOK s r s') (hfl : Source.flat s = Source.flat src)
    (hl : s.length ≤ src.length) : StepOK src r s' := by
  cases h with
  | again hr h0 h1 h2 => exact .again hr h0 (h1.trans hfl) (Nat.lt_of_lt_of_le h2 hl)
  | data h0 h1 h2 => exact .data h0 (h1.trans hfl) (Nat.le_trans h2 hl)
  | eof h1 => exact .eof (hfl ▸ h1)

theorem StepOK.take (n : Nat) (a : UInt8) (t : Bytes) (rest : Source) (hf : noFault rest = true) :
    StepOK (.data (a :: t) :: rest) (some (.ok ((a :: t).take (n + 1)))) (.data ((a :: t).drop (n + 1)) :: rest) :=
  .data hf (by simp only [Source.flat, List.drop_succ_cons, List.cons_append, ← List.append_assoc,
    List.take_append_drop]) (Nat.le_refl _)

/-- both interfaces of a scripted source; they differ at `pending` only -/
theorem src_spec (n : Nat) (src : Source) (hf : noFault src = true) :
    StepOK src (srcPoll (n + 1) src).1 (srcPoll (n + 1) src).2 ∧
    StepOK src (some (srcRead (n + 1) src).1) (srcRead (n + 1) src).2 := by
  induction src with
  | nil => exact ⟨.eof rfl, .eof rfl⟩
  | cons e rest ih =>
    have ⟨he, hr⟩ := (noFault_cons e rest).mp hf
    cases e with
    | data b =>
      cases b with
      | nil => exact ⟨(ih hr).1.skip rfl (Nat.le_succ _), (ih hr).2.skip rfl (Nat.le_succ _)⟩
      | cons x t =>
        simp only [srcPoll, srcRead, List.isEmpty_cons, Bool.false_eq_true, ↓reduceIte]
        split
        · exact ⟨.data hr rfl (Nat.le_succ _), .data hr rfl (Nat.le_succ _)⟩
        · exact ⟨.take n x t rest hr, .take n x t rest hr⟩
    | pending => exact ⟨.again (.inl rfl) hr rfl (Nat.lt_succ_self _), (ih hr).2.skip rfl (Nat.le_succ _)⟩
    | interrupted =>
      exact ⟨.again (.inr rfl) hr rfl (Nat.lt_succ_self _), .again (.inr rfl) hr rfl (Nat.lt_succ_self _)⟩
    | fail k => cases he

theorem blockOn_spec (n fuel : Nat) (src : Source) (hf : noFault src = true) (hl : src.length ≤ fuel) :
    StepOK src (some (Payload.read.blockOn (n + 1) src fuel).1) (Payload.read.blockOn (n + 1) src fuel).2 := by
  fun_induction Payload.read.blockOn (n + 1) src fuel with
  | case1 src =>
    cases List.eq_nil_of_length_eq_zero (Nat.le_zero.mp hl)
    exact .eof rfl
  | case2 src fuel r s heq => simpa only [heq] using (src_spec n src hf).1
  | case3 src fuel s heq ih =>
    obtain ⟨_, h0, h1, h2⟩ := heq ▸ (src_spec n src hf).1  -- only `StepOK.again` answers `none`
    exact (ih h0 (Nat.le_of_lt_succ (Nat.lt_of_lt_of_le h2 hl))).skip h1 (Nat.le_of_lt h2)

theorem allowStd_spec (n fuel : Nat) (src : Source) (hf : noFault src = true) :
    StepOK src (some (Payload.poll.allowStd (n + 1) src fuel).1) (Payload.poll.allowStd (n + 1) src fuel).2 := by
  fun_induction Payload.poll.allowStd (n + 1) src fuel with
  | case1 src => exact (src_spec n src hf).2
  | case2 src fuel s heq ih =>
    obtain ⟨_, h0, h1, h2⟩ := heq ▸ (src_spec n src hf).2
    exact (ih h0).skip h1 (Nat.le_of_lt h2)
  | case3 src fuel r s _ heq => exact heq ▸ (src_spec n src hf).2

theorem read_spec (n : Nat) (p : Payload) (hf : noFault p.source = true) :
    StepOK p.source (some (p.read (n + 1)).1) (p.read (n + 1)).2.source := by
  cases p with
  | empty => exact .eof rfl
  | sync src => exact (src_spec n src hf).2
  | async src => exact blockOn_spec n src.length src hf (Nat.le_refl _)

theorem poll_spec (n : Nat) (p : Payload) (hf : noFault p.source = true) :
    StepOK p.source (p.poll (n + 1)).1 (p.poll (n + 1)).2.source := by
  cases p with
  | empty => exact .eof rfl
  | sync src => exact allowStd_spec n src.length src hf
  | async src => exact (src_spec n src hf).1

def step (cons : Consumer) (n : Nat) (c : Chain) : Option (Except IoKind Bytes) × Chain :=
  match cons with
  | .blocking => (some (c.read n).1, (c.read n).2)
  | .async => c.poll n

/-- the chain as one script: the unread header bytes are its first data event -/
def script (c : Chain) : Source :=
  if c.doneFirst then c.second.source else .data c.first :: c.second.source

theorem step_spec (cons : Consumer) (n : Nat) (c : Chain) (hf : noFault (script c) = true) :
    StepOK (script c) (step cons (n + 1) c).1 (script (step cons (n + 1) c).2) := by
  obtain ⟨first, done, p⟩ := c
  cases done with
  | true =>
    cases cons with
    | blocking => exact read_spec n p hf
    | async => exact poll_spec n p hf
  | false =>
    cases first with
    | nil =>
      cases cons with
      | blocking => exact (read_spec n p hf).skip rfl (Nat.le_succ _)
      | async => exact (poll_spec n p hf).skip rfl (Nat.le_succ _)
    | cons a t => cases cons <;> exact .take n a t p.source hf

theorem drain_succ (cons : Consumer) (dflt fuel : Nat) (sizes : List Nat) (c : Chain) :
    drain cons dflt (fuel + 1) sizes c =
      (match step cons (sizes.headD dflt) c with
       | (none, c') => drain cons dflt fuel sizes c'
       | (some (.error .interrupted), c') => drain cons dflt fuel sizes c'
       | (some (.error k), _) => ([], some k)
       | (some (.ok bs), c') =>
         if bs.isEmpty && sizes.headD dflt ≠ 0 then ([], none)
         else ((bs ++ (drain cons dflt fuel sizes.tail c').1), (drain cons dflt fuel sizes.tail c').2)) := by
  cases cons <;> rfl

theorem pos_sizes {sizes : List Nat} {dflt : Nat} (hd : 0 < dflt)
    (hs : sizes.all (fun n => decide (0 < n)) = true) :
    0 < sizes.headD dflt ∧ sizes.tail.all (fun n => decide (0 < n)) = true := by
  cases sizes with
  | nil => exact ⟨hd, rfl⟩
  | cons a t =>
    simp only [List.all_cons, Bool.and_eq_true, decide_eq_true_eq] at hs
    exact hs

/-- the invariant: from any state of the chain, with enough fuel, exactly the outstanding bytes are delivered -/
theorem drain_inv (cons : Consumer) (dflt : Nat) (hd : 0 < dflt) (fuel : Nat) (sizes : List Nat) (c : Chain)
    (hs : sizes.all (fun n => decide (0 < n)) = true) (hf : noFault (script c) = true)
    (hm : (Source.flat (script c)).length + (script c).length < fuel) :
    drain cons dflt fuel sizes c = (Source.flat (script c), none) := by
  induction fuel generalizing sizes c with
  | zero => exact absurd hm (Nat.not_lt_zero _)
  | succ fuel ih =>
    obtain ⟨hpos, hs'⟩ := pos_sizes hd hs
    obtain ⟨n, hn⟩ := Nat.exists_eq_add_one.mpr hpos
    have hsp := step_spec cons n c hf
    rw [drain_succ, hn]
    rcases hst : step cons (n + 1) c with ⟨r, c'⟩
    simp only [hst] at hsp
    cases hsp with
    | again hr h0 h1 h2 =>
      rw [← h1] at hm ⊢
      have := ih sizes c' hs h0 (Nat.lt_of_lt_of_le (Nat.add_lt_add_left h2 _) (Nat.le_of_lt_succ hm))
      rcases hr with rfl | rfl <;> exact this
    | data h0 h1 h2 =>
      rw [← h1] at hm ⊢
      simp only [List.length_append, List.length_cons] at hm
      simp only [List.isEmpty_cons, Bool.false_and, Bool.false_eq_true, ↓reduceIte]
      rw [ih sizes.tail c' hs' h0 (by omega)]
    | eof h1 =>
      rw [h1]
      rfl

end Drain

open Drain in
/-- every consumer, every payload kind, every sequence of positive buffer sizes: the drained bytes are the
    header-and-attributes bytes followed by exactly the payload's data, then end of stream -/
theorem drain_content (cons : Consumer) (hdr : Bytes) (pay : Payload) (sizes : List Nat) (dflt : Nat)
    (hd : 0 < dflt) (hs : sizes.all (fun n => decide (0 < n)) = true) (hf : noFault pay.source = true) :
    drain cons dflt (drainFuel hdr pay sizes) sizes ⟨hdr, false, pay⟩ = (hdr ++ Source.flat pay.source, none) :=
  drain_inv cons dflt hd _ sizes ⟨hdr, false, pay⟩ hs hf (by
    simp only [script, Source.flat, drainFuel, size_eq_flat_length, List.length_append, List.length_cons,
      Bool.false_eq_true, ↓reduceIte]
    omega)

end Ipp
