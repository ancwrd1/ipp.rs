/-
  The encoder against the reference encoding, at the level of the message (C03, C01).
  `opFirst` is what any list of groups becomes on the wire (first operation group in front, an empty one
  supplied when there is none); the encoder only looks at `firstOp` and `restGroups`, so it cannot tell `L`
  from `opFirst L`.  The theorem is about the listing alone (`encode_any`): the encoder's bytes are the
  reference encoding of `opFirst L`, that tree is well-formed, and its reading is `opFirst` of the
  canonical form of `L`.  A canonical message and a listing of it enter only through `listing_dom_canon`.
-/
import IppModel.Lemmas.Encode
namespace Ipp
open Gen Spec

/-- the predicate `opFirst` searches with -/
abbrev opP : Group → Bool := fun g => g.tag == DelimiterTag.OperationAttributes

theorem isOpGroup_eq (g : Group) : isOpGroup g = opP g := rfl

theorem firstOp_eq_find (gs : List Group) : firstOp gs = gs.find? opP := by
  induction gs with
  | nil => rfl
  | cons g r ih =>
    simp only [firstOp, List.find?_cons, isOpGroup_eq, ih]
    cases opP g <;> rfl

theorem restGroups_eq_eraseP (gs : List Group) : restGroups gs = gs.eraseP opP := by
  induction gs with
  | nil => rfl
  | cons g r ih =>
    simp only [restGroups, List.eraseP_cons, isOpGroup_eq, ih]
    cases opP g <;> rfl

/-- the group `opFirst` puts in front -/
def opHead (gs : List Group) : Group := (gs.find? opP).getD ⟨.OperationAttributes, []⟩

theorem opFirst_eq (gs : List Group) : opFirst gs = opHead gs :: gs.eraseP opP := rfl

theorem opHead_tag (gs : List Group) : (opHead gs).tag = .OperationAttributes := by
  unfold opHead
  cases h : gs.find? opP with
  | none => rfl
  | some g => exact eq_of_beq (List.find?_some h :)

theorem encAttributes_opFirst (L : List Group) : encAttributes (opFirst L) = encAttributes L := by
  have hp : isOpGroup (opHead L) = true := decide_eq_true (opHead_tag L)
  rw [opFirst_eq, encAttributes, encAttributes, firstOp, restGroups, if_pos hp, if_pos hp, firstOp_eq_find,
    restGroups_eq_eraseP, opHead]
  cases L.find? opP <;> rfl

/-- the encoder cannot tell a listing from the same listing with its operation group in front -/
theorem encodeMsg_opFirst (h : Header) (L : List Group) : encodeMsg h (opFirst L) = encodeMsg h L := by
  unfold encodeMsg
  rw [encAttributes_opFirst]

/-- a list that starts with an operation group is what goes on the wire -/
theorem opFirst_cons (g : Group) (r : List Group) (hg : g.tag = .OperationAttributes) : opFirst (g :: r) = g :: r := by
  have : opP g = true := beq_iff_eq.mpr hg
  simp [opFirst, this]

/-- a message of C01's domain and any listing of it start with the operation group, so `opFirst` moves nothing -/
theorem opFirst_of_wf {gs L : List Group} (hwf : wfMsg gs = true) (hL : ListingOf gs L) :
    opFirst gs = gs ∧ opFirst L = L := by
  cases gs with
  | nil => cases hwf
  | cons g gs' =>
    cases L with
    | nil => exact hL.elim
    | cons l ls =>
      have hg := beq_iff_eq.mp (Bool.and_eq_true_iff.mp hwf).1
      exact ⟨opFirst_cons g gs' hg, opFirst_cons l ls (hL.1.trans hg)⟩

/-- what the theorems ask of a listing: group tags, unique names, every attribute in the domain -/
def EncDom (L : List Group) : Prop := ∀ l ∈ L, GroupDom l ∧ KeyFn l.attrs

/-- the operation group as the encoder writes it -/
def opOrdered (l : Group) : Group := { l with attrs := opOrder l.attrs }

theorem canon_opOrdered (l : Group) (hk : KeyFn l.attrs) : (opOrdered l).canon = l.canon := by
  simp only [Group.canon, opOrdered]
  congr 1
  exact sinsertAll_eq_of_mem (sinsertAll_sorted _ _ rfl) fun p =>
    (mem_opOrder_iff hk p).trans (mem_sinsertAll_iff hk p).symm

/-! ### the message: a listing whose head is the operation group is written as `opOrdered head :: tail` -/

theorem toWireMsg_cons (h : Header) (l : Group) (ls : List Group) (ht : l.tag = .OperationAttributes) :
    toWireMsg h (l :: ls) = ⟨h.version, h.opOrStatus, h.requestId, toWGroups (opOrdered l :: ls)⟩ := by
  simp only [toWireMsg, toWGroups, toWGroup, opOrdered, ht]
  rfl

theorem encodeMsg_cons (h : Header) (l : Group) (ls : List Group) (ht : l.tag = .OperationAttributes) :
    encodeMsg h (l :: ls) = encHeader h ++ (encGroups (opOrdered l :: ls) ++ [0x03]) := by
  have hop : isOpGroup l = true := decide_eq_true ht
  simp only [encodeMsg, encAttributes, firstOp, restGroups, hop, if_true, encOp_eq, encGroups, encGroup, opOrdered, ht]
  simp [DelimiterTag.u8, DelimiterTag.code]

theorem encDom_opOrdered {l : Group} {ls : List Group} (hd : EncDom (l :: ls)) : ∀ g ∈ opOrdered l :: ls, GroupDom g := by
  intro g hg
  rcases List.mem_cons.mp hg with rfl | hg
  · exact ⟨(hd l List.mem_cons_self).1.1, fun p hp => (hd l List.mem_cons_self).1.2 p (mem_opOrder_mem hp)⟩
  · exact (hd g (List.mem_cons_of_mem _ hg)).1

/-- C03 for a listing whose first group is the operation group -/
theorem encode_cons (h : Header) (l : Group) (ls : List Group) (ht : l.tag = .OperationAttributes) (hd : EncDom (l :: ls)) :
    encodeMsg h (l :: ls) = ser (toWireMsg h (l :: ls)) ∧ wfWire (toWireMsg h (l :: ls)) = true ∧
      interp (toWireMsg h (l :: ls)) = (h, (l :: ls).map Group.canon) := by
  obtain ⟨e, w, i⟩ := toWGroups_spec _ (encDom_opOrdered hd)
  rw [toWireMsg_cons h l ls ht, encodeMsg_cons h l ls ht]
  refine ⟨?_, w, ?_⟩
  · simp [e, ser, encHeader]
  · rw [interp, i, List.map_cons, canon_opOrdered l (hd l List.mem_cons_self).2]
    rfl

/-! ### from a canonical message and a listing of it to the listing alone -/

theorem listing_dom_canon {gs L : List Group} (hwf : gs.all wfGroupC = true) (hL : ListingOf gs L) :
    EncDom L ∧ L.map Group.canon = gs := by
  induction gs generalizing L with
  | nil =>
    cases L with
    | nil => exact ⟨fun _ h => (nomatch h), rfl⟩
    | cons l ls => exact hL.elim
  | cons g gs ih =>
    cases L with
    | nil => exact hL.elim
    | cons l ls =>
      obtain ⟨ht, hp, hr⟩ := hL
      simp only [List.all_cons, wfGroupC, Bool.and_eq_true, bne_iff_ne] at hwf
      obtain ⟨⟨⟨hne, hs⟩, ha⟩, hgs⟩ := hwf
      obtain ⟨ih1, ih2⟩ := ih hgs hr
      have hl : GroupDom l ∧ KeyFn l.attrs :=
        ⟨⟨ht ▸ hne, fun p hp' => List.all_eq_true.mp ha p (hp.mem_iff.mp hp')⟩,
          KeyFn_of_mem (sortedB_keyFn hs) fun p => hp.mem_iff.mp⟩
      refine ⟨List.forall_mem_cons.mpr ⟨hl, ih1⟩, ?_⟩
      rw [List.map_cons, ih2, Group.canon, sinsertAll_perm hs hp, ht]

theorem opFirst_map (f : Group → Group) (hf : ∀ g, (f g).tag = g.tag)
    (h0 : f ⟨.OperationAttributes, []⟩ = ⟨.OperationAttributes, []⟩) (L : List Group) :
    opFirst (L.map f) = (opFirst L).map f := by
  have hp : opP ∘ f = opP := funext fun g => by simp [opP, hf]
  rw [opFirst_eq, opFirst_eq, List.map_cons, opHead, opHead, List.find?_map, List.eraseP_map, hp]
  cases L.find? opP <;> simp [h0]

theorem encDom_opFirst {L : List Group} (hd : EncDom L) : EncDom (opFirst L) := by
  refine List.forall_mem_cons.mpr ⟨?_, fun l hl => hd l (List.mem_of_mem_eraseP hl)⟩
  cases h : L.find? opP with
  | none => exact ⟨⟨by decide, fun _ h => (nomatch h)⟩, fun _ _ _ h => (nomatch h)⟩
  | some g => exact hd g (List.mem_of_find?_eq_some h)

/-- C03 for every listing -/
theorem encode_any (h : Header) (L : List Group) (hd : EncDom L) :
    encodeMsg h L = ser (toWireMsg h (opFirst L)) ∧ wfWire (toWireMsg h (opFirst L)) = true ∧
      interp (toWireMsg h (opFirst L)) = (h, opFirst (L.map Group.canon)) := by
  rw [← encodeMsg_opFirst h L, opFirst_map Group.canon (fun _ => rfl) rfl, opFirst_eq]
  exact encode_cons h _ _ (opHead_tag L) (encDom_opFirst hd)

end Ipp
