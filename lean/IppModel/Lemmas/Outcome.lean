/-
  `Outcome` as a monad: what `bind` does, a predicate on outcomes and a relation between outcomes, each with
  the rule that carries it through `bind`.  Proofs about the readers, the decoder and the drive loop go
  through these rules instead of splitting every intermediate outcome into its four cases.
-/
import IppModel.Model.Basic
namespace Ipp

variable {α β γ δ : Type}

@[simp] theorem Outcome.bind_ok (a : α) (f : α → Outcome β) : (Outcome.ok a).bind f = f a := rfl
@[simp] theorem Outcome.bind_err (e : Err) (f : α → Outcome β) : (Outcome.err e).bind f = .err e := rfl
@[simp] theorem Outcome.bind_panic (f : α → Outcome β) : Outcome.panic.bind f = .panic := rfl
@[simp] theorem Outcome.bind_outOfFuel (f : α → Outcome β) : Outcome.outOfFuel.bind f = .outOfFuel := rfl

theorem Outcome.bind_eq_ok {x : Outcome α} {f : α → Outcome β} {b : β} :
    x.bind f = .ok b ↔ ∃ a, x = .ok a ∧ f a = .ok b := by
  cases x <;> simp

theorem Outcome.bind_congr {x : Outcome α} {f g : α → Outcome β} (h : ∀ a, x = .ok a → f a = g a) :
    x.bind f = x.bind g := by
  cases x with
  | ok a => exact h a rfl
  | _ => rfl

theorem Outcome.bind_assoc (x : Outcome α) (f : α → Outcome β) (g : β → Outcome γ) :
    (x.bind f).bind g = x.bind fun a => (f a).bind g := by
  cases x <;> rfl

/-- the result of a `read_exact` as an outcome -/
def ofRead : Except IoKind α → Outcome α
  | .ok a => .ok a
  | .error k => .err (.io k)

/-- neither a panic nor exhausted fuel; a result satisfies `P`, an error `E` -/
def Outcome.Sat (P : α → Prop) (E : Err → Prop) : Outcome α → Prop
  | .ok a => P a
  | .err e => E e
  | .panic => False
  | .outOfFuel => False

theorem Outcome.Sat.bind {P : α → Prop} {Q : β → Prop} {E : Err → Prop} {x : Outcome α} {f : α → Outcome β}
    (hx : x.Sat P E) (hf : ∀ a, P a → (f a).Sat Q E) : (x.bind f).Sat Q E := by
  cases x with
  | ok a => exact hf a hx
  | _ => exact hx

theorem Outcome.Sat.imp {P Q : α → Prop} {E F : Err → Prop} {x : Outcome α} (hx : x.Sat P E)
    (hP : ∀ a, P a → Q a) (hE : ∀ e, E e → F e) : x.Sat Q F := by
  cases x with
  | ok a => exact hP a hx
  | err e => exact hE e hx
  | _ => exact hx

abbrev Outcome.safe (x : Outcome α) : Prop := x.Sat (fun _ => True) (fun _ => True)

theorem Outcome.Sat.safe {P : α → Prop} {E : Err → Prop} {x : Outcome α} (hx : x.Sat P E) : x.safe :=
  hx.imp (fun _ _ => trivial) (fun _ _ => trivial)

theorem Outcome.Sat.ne {P : α → Prop} {E : Err → Prop} {x : Outcome α} (hx : x.Sat P E) :
    x ≠ .panic ∧ x ≠ .outOfFuel := by
  constructor <;> intro h <;> rw [h] at hx <;> exact hx

/-- outcomes of the same kind, with related results -/
inductive OutRel (R : α → β → Prop) : Outcome α → Outcome β → Prop
  | ok {a b} : R a b → OutRel R (.ok a) (.ok b)
  | err (e : Err) : OutRel R (.err e) (.err e)
  | panic : OutRel R .panic .panic
  | oof : OutRel R .outOfFuel .outOfFuel

theorem OutRel.bind {R : α → β → Prop} {S : γ → δ → Prop} {x : Outcome α} {y : Outcome β}
    {f : α → Outcome γ} {g : β → Outcome δ} (h : OutRel R x y) (hf : ∀ a b, R a b → OutRel S (f a) (g b)) :
    OutRel S (x.bind f) (y.bind g) := by
  cases h with
  | ok hab => exact hf _ _ hab
  | _ => constructor

theorem OutRel.refl {R : α → α → Prop} (h : ∀ a, R a a) (x : Outcome α) : OutRel R x x := by
  cases x with
  | ok a => exact .ok (h a)
  | _ => constructor

theorem OutRel.err_right {R : α → β → Prop} {x : Outcome α} {y : Outcome β} {e : Err}
    (h : OutRel R x y) (hy : y = .err e) : x = .err e := by
  cases h <;> cases hy
  rfl

end Ipp
