/-
  The parser refines the wire grammar (the development behind C04): on the serialisation of well-formed
  groups the byte loop of `parseFlat` runs their tokens on the parser state (TokenRun.lean) and reaches a state
  from which the next delimiter yields their RFC reading.
-/
import IppModel.Lemmas.TokenRun
namespace Ipp
open Gen Spec

/-- `OnDelim s done`: `done` is the group list a delimiter arriving in state `s` produces -/
def OnDelim (s : PState) (done : List Group) : Prop :=
  (s = PState.init ∧ done = []) ∨
  ∃ gs t m pend, s = mkSt gs t m pend ∧ done = gs ++ [⟨t, flushP m pend⟩]

/-- one turn of the loop on a delimiter -/
theorem driveLoop_delim {s : PState} {done : List Group} (hr : OnDelim s done) {tag : UInt8} {t : DelimiterTag}
    (ht : DelimiterTag.fromCode tag.toNat = some t) (hd : syncLoop.isDelim tag) (f : Nat) (rest : Bytes) :
    driveLoop flatRd syncLoop pMachine (f + 1) (tag :: rest) s =
      if t.code = syncLoop.endTag then .ok (mkSt done t [] none, rest)
      else driveLoop flatRd syncLoop pMachine f rest (mkSt done t [] none) := by
  have hm : pMachine.delim s tag = .ok (mkSt done t [] none, t.code) := by
    simp only [pMachine, PState.parseDelimiter, ht]
    rcases hr with ⟨rfl, rfl⟩ | ⟨gs, t', m, pend, rfl, rfl⟩
    · rfl
    · rw [mkSt_addLast]
      rfl
  rw [driveLoop_succ, rdItem_flat_delim _ _ _ hd, Outcome.bind_ok, Machine.feed, hm]
  simp only [Outcome.bind_ok, decide_eq_true_eq]

/-- the RFC's four group-opening tags are delimiters of the model, dispatched as such and not the end tag -/
theorem groupTag_cases {tag : UInt8} (h : tag = 0x01 ∨ tag = 0x02 ∨ tag = 0x04 ∨ tag = 0x05) :
    ∃ t, delimOf tag = some t ∧ DelimiterTag.fromCode tag.toNat = some t ∧ t.code ≠ syncLoop.endTag ∧
      syncLoop.isDelim tag := by
  rcases h with rfl | rfl | rfl | rfl <;> exact ⟨_, rfl, rfl, by decide, by decide⟩

theorem groups_run (gs : List WGroup) (h : wfGroups gs = true) (s : PState) (done : List Group)
    (hr : OnDelim s done) :
    ∃ k s', OnDelim s' (done ++ interpGroups gs) ∧ ∀ f rest,
      driveLoop flatRd syncLoop pMachine (f + k) (serGroups gs ++ rest) s =
        driveLoop flatRd syncLoop pMachine f rest s' := by
  induction gs generalizing s done with
  | nil => exact ⟨0, s, by simpa [interpGroups] using hr, fun _ _ => rfl⟩
  | cons g gs ih =>
    obtain ⟨hd, ha, hgs⟩ := wfGroups_cons.mp h
    obtain ⟨t, ht, hfc, hne, hrange⟩ := groupTag_cases hd
    obtain ⟨m', pend', hrun, hfl⟩ := run_attrs g.attrs ha done t [] none
    have hr2 : OnDelim (mkSt done t m' pend') (done ++ [interpGroup g]) := by
      refine Or.inr ⟨done, t, m', pend', rfl, ?_⟩
      rw [hfl, interpGroup, ht]
      rfl
    obtain ⟨k2, s', hr', hk⟩ := ih hgs _ _ hr2
    refine ⟨k2 + (toksAttrs g.attrs).length + 1, s', ?_, ?_⟩
    · rwa [List.append_assoc] at hr'
    · intro f rest
      simp only [serGroups, serGroup, List.cons_append, List.append_assoc]
      rw [← Nat.add_assoc, ← Nat.add_assoc, driveLoop_delim hr hfc hrange, if_neg hne,
        driveLoop_toks syncLoop pMachine _ (toksAttrs_ok g.attrs ha) _ _ _ hrun, hk]

/-- the header and then the loop, with whatever fuel the loop does not exhaust -/
theorem parseFlat_core (v o : UInt16) (i : UInt32) (B : Bytes) (f : Nat)
    (hne : driveLoop flatRd syncLoop pMachine f B PState.init ≠ .outOfFuel) :
    parseFlat (be16 v.toNat ++ (be16 o.toNat ++ (be32 i ++ B))) =
      (driveLoop flatRd syncLoop pMachine f B PState.init).bind fun s => .ok ((⟨v, o, i⟩, s.1.groups), s.2) := by
  have hlen : B.length < (be16 v.toNat ++ (be16 o.toNat ++ (be32 i ++ B))).length + 1 := by
    simp only [List.length_append]
    omega
  rw [parseFlat, parseWith_eq, rdHeader_flat, Outcome.bind_ok,
    driveLoop_fuel_transfer flatRd syncLoop pMachine f _ B PState.init hne
      (driveLoop_safe flatRd_laws _ _ (fun _ _ _ _ => parseValue_safe ..) _ _ _ hlen).ne.2]

/-- Well-formed groups after the header bring the parser to a state from which a delimiter yields their RFC
    reading; the message is then decided by what one more run of the loop makes of the rest, whatever it is. -/
theorem parseFlat_groups (v o : UInt16) (i : UInt32) (gs : List WGroup) (h : wfGroups gs = true) :
    ∃ s', OnDelim s' (interpGroups gs) ∧ ∀ (rest : Bytes) (f : Nat),
      driveLoop flatRd syncLoop pMachine f rest s' ≠ .outOfFuel →
      parseFlat (be16 v.toNat ++ (be16 o.toNat ++ (be32 i ++ (serGroups gs ++ rest)))) =
        (driveLoop flatRd syncLoop pMachine f rest s').bind fun s => .ok ((⟨v, o, i⟩, s.1.groups), s.2) := by
  obtain ⟨k, s', hr, hk⟩ := groups_run gs h PState.init [] (Or.inl ⟨rfl, rfl⟩)
  refine ⟨s', hr, fun rest f hne => ?_⟩
  rw [parseFlat_core v o i _ (f + k) (by rwa [hk]), hk]

end Ipp
