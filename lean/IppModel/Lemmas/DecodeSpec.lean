/-
  The value decoder of the implementation agrees with the RFC reading `decodePlain` on well-formed bodies.
  Both decoders, and `wfBody`, dispatch on the tag; their equations are stated once per syntax family
  (ten string kinds, two integer kinds, two with-language kinds, …; `tag_cases`), each by unfolding at a
  literal tag.  Only the member-name tag reads as a member name (`isMName`, `decodePlain_not_memberName`).
-/
import IppModel.Model.Codec
import IppModel.Lemmas.Bytes
import IppModel.Lemmas.Utf8
import IppModel.Spec.ToWire
namespace Ipp
open Gen Spec

/-- the tags with a syntax of their own (the list `otherTagOk` excludes) -/
def registered : List UInt8 :=
  [0x13, 0x21, 0x22, 0x23, 0x30, 0x31, 0x32, 0x33, 0x34, 0x35, 0x36, 0x37,
   0x41, 0x42, 0x44, 0x45, 0x46, 0x47, 0x48, 0x49, 0x4a]

theorem tag_cases {P : UInt8 → Prop} (t : UInt8)
    (int : ∀ k : IntKind, P k.vtag.u8) (bool : P 0x22) (str : ∀ k : StrKind, P k.vtag.u8)
    (lang : ∀ k : LangKind, P k.vtag.u8) (range : P 0x33) (dateTime : P 0x31) (resolution : P 0x32)
    (noValue : P 0x13) (beg : P 0x34) (fin : P 0x37) (other : registered.contains t = false → P t) : P t := by
  have all : ∀ x ∈ registered, P x := by
    simp only [registered, List.forall_mem_cons]
    exact ⟨noValue, int .integer, bool, int .enum, str .octetString, dateTime, resolution, range, beg,
      lang .text, lang .name, fin, str .textWithoutLanguage, str .nameWithoutLanguage, str .keyword, str .uri,
      str .uriScheme, str .charset, str .naturalLanguage, str .mimeMediaType, str .memberAttrName, fun _ h => nomatch h⟩
  cases h : registered.contains t with
  | false => exact other h
  | true => exact all t (List.contains_iff_mem.mp h)

theorem decodePlain_int (k : IntKind) (a b c d : UInt8) :
    decodePlain k.vtag.u8 [a, b, c, d] = .int k (unbe32 a b c d) := by cases k <;> rfl
theorem decodePlain_bool (x : UInt8) : decodePlain 0x22 [x] = .bool (x != 0) := by rfl
theorem decodePlain_str (k : StrKind) (b : Bytes) : decodePlain k.vtag.u8 b = .str k (lossy b) := by cases k <;> rfl
theorem decodePlain_range (a b c d e f g h : UInt8) :
    decodePlain 0x33 [a, b, c, d, e, f, g, h] = .range (unbe32 a b c d) (unbe32 e f g h) := by rfl
theorem decodePlain_dateTime (y1 y0 mo d h mi s ds dir uh um : UInt8) :
    decodePlain 0x31 [y1, y0, mo, d, h, mi, s, ds, dir, uh, um] =
      .dateTime (UInt16.ofNat (unbe16 y1 y0)) mo d h mi s ds dir.toNat uh um := by rfl
theorem decodePlain_resolution (a b c d e f g h u : UInt8) :
    decodePlain 0x32 [a, b, c, d, e, f, g, h, u] = .resolution (unbe32 a b c d) (unbe32 e f g h) u := by rfl
theorem decodePlain_langKind (k : LangKind) (l1 l0 : UInt8) (r : Bytes) :
    decodePlain k.vtag.u8 (l1 :: l0 :: r) = (match r.drop (unbe16 l1 l0) with
      | t1 :: t0 :: r2 => .lang k (lossy (r.take (unbe16 l1 l0))) (lossy (r2.take (unbe16 t1 t0)))
      | _ => .other k.vtag.u8 (l1 :: l0 :: r)) := by cases k <;> rfl
theorem decodePlain_noValue (b : Bytes) : decodePlain 0x13 b = .noValue := by rfl

theorem wfBody_int (k : IntKind) (b : Bytes) : wfBody k.vtag.u8 b = (b.length == 4) := by cases k <;> rfl
theorem wfBody_bool (b : Bytes) : wfBody 0x22 b = (b.length == 1) := by rfl
theorem wfBody_str (k : StrKind) (b : Bytes) : wfBody k.vtag.u8 b = true := by cases k <;> rfl
theorem wfBody_range (b : Bytes) : wfBody 0x33 b = (b.length == 8) := by rfl
theorem wfBody_dateTime (b : Bytes) : wfBody 0x31 b = (b.length == 11) := by rfl
theorem wfBody_resolution (b : Bytes) : wfBody 0x32 b = (b.length == 9) := by rfl
theorem wfBody_langKind (k : LangKind) (l1 l0 : UInt8) (r : Bytes) :
    wfBody k.vtag.u8 (l1 :: l0 :: r) = (match r.drop (unbe16 l1 l0) with
      | t1 :: t0 :: r2 => decide (unbe16 l1 l0 ≤ r.length) && r2.length == unbe16 t1 t0
      | _ => false) := by cases k <;> rfl

/-- a well-formed with-language body: two length-prefixed strings, the second ending the body -/
theorem wfBody_lang (k : LangKind) (b : Bytes) (h : wfBody k.vtag.u8 b = true) :
    ∃ l1 l0 r t1 t0 r2, b = l1 :: l0 :: r ∧ r.drop (unbe16 l1 l0) = t1 :: t0 :: r2 ∧
      unbe16 l1 l0 ≤ r.length ∧ r2.length = unbe16 t1 t0 := by
  rcases b with _ | ⟨l1, _ | ⟨l0, r⟩⟩
  · cases k <;> cases h
  · cases k <;> cases h
  · rw [wfBody_langKind] at h
    split at h
    next t1 t0 r2 hd =>
      simp only [Bool.and_eq_true, decide_eq_true_eq, beq_iff_eq] at h
      exact ⟨l1, l0, r, t1, t0, r2, rfl, hd, h.1, h.2⟩
    next => cases h

/-- a tag without a syntax of its own falls through both dispatches -/
theorem plain_other {t : UInt8} (h : registered.contains t = false) (b : Bytes) :
    decodePlain t b = .other t b ∧ wfBody t b = true := by
  simp only [registered, List.contains_cons, List.contains_nil, Bool.or_false, Bool.or_eq_false_iff,
    beq_eq_false_iff_ne, ne_eq] at h
  unfold decodePlain wfBody
  simp only [h, or_self, ↓reduceIte, and_self]

theorem decodeValue_int (k : IntKind) (a b c d : UInt8) :
    decodeValue k.vtag.u8 [a, b, c, d] = .ok (.int k (unbe32 a b c d)) := by cases k <;> rfl
theorem decodeValue_bool (x : UInt8) : decodeValue 0x22 [x] = .ok (.bool (x != 0)) := by rfl
theorem decodeValue_str (k : StrKind) (b : Bytes) : decodeValue k.vtag.u8 b = .ok (.str k (lossy b)) := by
  cases k <;> rfl
theorem decodeValue_range (a b c d e f g h : UInt8) :
    decodeValue 0x33 [a, b, c, d, e, f, g, h] = .ok (.range (unbe32 a b c d) (unbe32 e f g h)) := by rfl
theorem decodeValue_dateTime (y1 y0 mo d h mi s ds dir uh um : UInt8) :
    decodeValue 0x31 [y1, y0, mo, d, h, mi, s, ds, dir, uh, um] =
      .ok (.dateTime (UInt16.ofNat (unbe16 y1 y0)) mo d h mi s ds dir.toNat uh um) := by rfl
theorem decodeValue_resolution (a b c d e f g h u : UInt8) :
    decodeValue 0x32 [a, b, c, d, e, f, g, h, u] = .ok (.resolution (unbe32 a b c d) (unbe32 e f g h) u) := by rfl
theorem decodeValue_noValue (b : Bytes) : decodeValue 0x13 b = .ok .noValue := by rfl
theorem decodeValue_langKind (k : LangKind) (b : Bytes) : decodeValue k.vtag.u8 b = decodeLang k b := by
  cases k <;> rfl

theorem fromCode_some_code (n : Nat) (t : ValueTag) (h : ValueTag.fromCode n = some t) : t.code = n := by
  simpa using List.find?_some h

theorem decodeValue_other {t : UInt8} (h : registered.contains t = false) (b : Bytes) :
    decodeValue t b = .ok (.other t b) := by
  unfold decodeValue
  cases hf : ValueTag.fromCode t.toNat with
  | none => rfl
  | some vt =>
    obtain rfl : vt.u8 = t := by
      rw [ValueTag.u8, fromCode_some_code _ _ hf]
      exact UInt8.ofNat_toNat
    -- every variant is registered, against `h`, or falls to the default arm of `decodeKnown`
    cases vt <;> first | exact absurd h (by decide) | rfl

theorem getLenString_cons (l1 l0 : UInt8) (r : Bytes) (h : unbe16 l1 l0 ≤ r.length) :
    getLenString (l1 :: l0 :: r) = .ok (lossy (r.take (unbe16 l1 l0)), r.drop (unbe16 l1 l0)) := by
  have h2 : ¬ r.length + 1 + 1 < 2 := by omega
  simp only [getLenString, checkLen, getU16, sliceAdvance, Outcome.bind, List.length_cons, if_neg h2,
    if_neg (Nat.not_lt.mpr h), if_pos h]

theorem decodeLang_wf (k : LangKind) (l1 l0 t1 t0 : UInt8) (r r2 : Bytes)
    (hd : r.drop (unbe16 l1 l0) = t1 :: t0 :: r2) (h1 : unbe16 l1 l0 ≤ r.length) (h2 : r2.length = unbe16 t1 t0) :
    decodeLang k (l1 :: l0 :: r) = .ok (.lang k (lossy (r.take (unbe16 l1 l0))) (lossy (r2.take (unbe16 t1 t0)))) := by
  simp only [decodeLang, getLenString_cons l1 l0 r h1, Outcome.bind, hd,
    getLenString_cons t1 t0 r2 (Nat.le_of_eq h2.symm)]

/-- a body of known length, element by element -/
theorem eq_map_getD {b : Bytes} {n : Nat} (h : (b.length == n) = true) : b = (List.range n).map (b.getD · 0) := by
  obtain rfl := beq_iff_eq.mp h
  refine List.ext_getElem (by simp) fun i h1 _ => ?_
  simp [List.getElem?_eq_getElem h1]

/-- In the fixed-length arms `eq_map_getD` writes the body as `[b.getD 0 0, …]`: `(List.range n).map _` at a literal
    `n` unfolds to that list, which is the form the per-family equations are stated in. -/
theorem decodeValue_plain (t : UInt8) (b : Bytes) (h34 : t ≠ 0x34) (h37 : t ≠ 0x37) (hwf : wfBody t b = true) :
    decodeValue t b = .ok (decodePlain t b) := by
  induction t using tag_cases with
  | int k =>
    rw [wfBody_int] at hwf
    rw [eq_map_getD hwf]
    exact (decodeValue_int ..).trans (congrArg _ (decodePlain_int ..).symm)
  | bool =>
    rw [wfBody_bool] at hwf
    rw [eq_map_getD hwf]
    exact (decodeValue_bool _).trans (congrArg _ (decodePlain_bool _).symm)
  | str k => rw [decodeValue_str, decodePlain_str]
  | lang k =>
    obtain ⟨l1, l0, r, t1, t0, r2, rfl, hd, h1, h2⟩ := wfBody_lang k b hwf
    rw [decodeValue_langKind, decodeLang_wf k l1 l0 t1 t0 r r2 hd h1 h2, decodePlain_langKind, hd]
  | range =>
    rw [wfBody_range] at hwf
    rw [eq_map_getD hwf]
    exact (decodeValue_range ..).trans (congrArg _ (decodePlain_range ..).symm)
  | dateTime =>
    rw [wfBody_dateTime] at hwf
    rw [eq_map_getD hwf]
    exact (decodeValue_dateTime ..).trans (congrArg _ (decodePlain_dateTime ..).symm)
  | resolution =>
    rw [wfBody_resolution] at hwf
    rw [eq_map_getD hwf]
    exact (decodeValue_resolution ..).trans (congrArg _ (decodePlain_resolution ..).symm)
  | noValue => rw [decodeValue_noValue, decodePlain_noValue]
  | beg => exact absurd rfl h34
  | fin => exact absurd rfl h37
  | other h => rw [decodeValue_other h, (plain_other h b).1]

def isMName : Value → Bool
  | .str .memberAttrName _ => true
  | _ => false

theorem isMName_ite (c : Prop) [Decidable c] (x y : Value) (hx : c → isMName x = false)
    (hy : ¬c → isMName y = false) : isMName (if c then x else y) = false := by
  split
  · exact hx ‹_›
  · exact hy ‹_›

/-- only the member-name tag reads as a member name -/
theorem decodePlain_not_memberName (t : UInt8) (b : Bytes) (h : t ≠ 0x4a) :
    isMName (decodePlain t b) = false := by
  -- branch by branch: six bodies read by one pattern, the with-language body by two, nine string kinds,
  -- the member name, no-value
  iterate 6 (refine isMName_ite _ _ _ (fun _ => ?_) (fun _ => ?_); · (split <;> rfl))
  refine isMName_ite _ _ _ (fun _ => ?_) (fun _ => ?_)
  · split
    · dsimp only
      split <;> rfl
    · rfl
  iterate 9 (refine isMName_ite _ _ _ (fun _ => rfl) (fun _ => ?_))
  refine isMName_ite _ _ _ (fun e => absurd e h) (fun _ => ?_)
  exact isMName_ite _ _ _ (fun _ => rfl) (fun _ => rfl)

end Ipp
