/-
  The readers and the drive loop in bind form.  `rdN` is "read n bytes and decode them"; one pass through
  the body of `driveLoop` reads an item (`rdItem`: reader and tag ranges only) and feeds it to the machine
  (`Machine.feed`: machine only).  Facts about the loop are proved about one half of a pass and lifted:
  fuel monotonicity, two readers that answer alike, two machines related by a projection.
-/
import IppModel.Model.Loop
import IppModel.Lemmas.Outcome
namespace Ipp

variable {ρ ρ1 ρ2 σ σ1 σ2 α : Type}

def rdN (rd : Reader ρ) (n : Nat) (g : Bytes → Outcome (α × Bytes)) (r : ρ) : Outcome (α × ρ) :=
  (ofRead (rd.readExact n r)).bind fun p => (g p.1).bind fun q => .ok (q.1, p.2)

theorem rdU8_eq (rd : Reader ρ) (r : ρ) : rdU8 rd r = rdN rd 1 getU8 r := by
  unfold rdU8 rdN
  rcases rd.readExact 1 r with k | ⟨_ | _, r'⟩ <;> rfl

theorem rdU16_eq (rd : Reader ρ) (r : ρ) : rdU16 rd r = rdN rd 2 getU16 r := by
  unfold rdU16 rdN
  rcases rd.readExact 2 r with k | ⟨_ | ⟨a, _ | ⟨b, t⟩⟩, r'⟩ <;> rfl

theorem rdU32_eq (rd : Reader ρ) (r : ρ) : rdU32 rd r = rdN rd 4 getU32 r := by
  unfold rdU32 rdN
  rcases rd.readExact 4 r with k | ⟨_ | ⟨a, _ | ⟨b, _ | ⟨c, _ | ⟨d, t⟩⟩⟩⟩, r'⟩ <;> rfl

theorem rdLV_eq (rd : Reader ρ) (r : ρ) :
    rdLV rd r = (rdN rd 2 getU16 r).bind fun p => ofRead (rd.readExact p.1 p.2) := by
  rw [← rdU16_eq]
  unfold rdLV
  cases rdU16 rd r with
  | ok p => simp only [Outcome.bind_ok]; cases rd.readExact p.1 p.2 <;> rfl
  | _ => rfl

theorem rdHeader_eq (rd : Reader ρ) (r : ρ) :
    rdHeader rd r = (rdN rd 2 getU16 r).bind fun v => (rdN rd 2 getU16 v.2).bind fun o =>
      (rdN rd 4 getU32 o.2).bind fun i => .ok (⟨UInt16.ofNat v.1, UInt16.ofNat o.1, i.1⟩, i.2) := by
  simp only [← rdU16_eq, ← rdU32_eq]
  unfold rdHeader
  cases rdU16 rd r with
  | ok v =>
    simp only [Outcome.bind_ok]
    cases rdU16 rd v.2 with
    | ok o => simp only [Outcome.bind_ok]; cases rdU32 rd o.2 <;> rfl
    | _ => rfl
  | _ => rfl

theorem parseWith_eq (rd : Reader ρ) (cfg : LoopCfg) (fuel : Nat) (r : ρ) :
    parseWith rd cfg fuel r = (rdHeader rd r).bind fun p =>
      (driveLoop rd cfg pMachine fuel p.2 PState.init).bind fun q => .ok ((p.1, q.1.groups), q.2) := by
  unfold parseWith
  cases rdHeader rd r with
  | ok p => simp only [Outcome.bind_ok]; cases driveLoop rd cfg pMachine fuel p.2 PState.init <;> rfl
  | _ => rfl

abbrev LoopCfg.isDelim (cfg : LoopCfg) (tag : UInt8) : Prop := cfg.delimLo ≤ tag.toNat ∧ tag.toNat ≤ cfg.delimHi
abbrev LoopCfg.isValue (cfg : LoopCfg) (tag : UInt8) : Prop := cfg.valueLo ≤ tag.toNat ∧ tag.toNat ≤ cfg.valueHi

/-- what the loop reads in one pass: a delimiter byte, or a value token -/
inductive Item where
  | delim (tag : UInt8)
  | value (tag : UInt8) (name body : Bytes)

def Item.wireLen : Item → Nat
  | .delim _ => 1
  | .value _ n b => 5 + n.length + b.length

/-- the reading half of the loop body: it knows the reader and the tag ranges, not the machine -/
def rdItem (rd : Reader ρ) (cfg : LoopCfg) (r : ρ) : Outcome (Item × ρ) :=
  (rdN rd 1 getU8 r).bind fun p =>
    if cfg.isDelim p.1 then .ok (.delim p.1, p.2)
    else if cfg.isValue p.1 then
      (rdLV rd p.2).bind fun n => (rdLV rd n.2).bind fun b => .ok (.value p.1 n.1 b.1, b.2)
    else .err (.invalidTag p.1)

/-- the machine's half: the new state, and whether the loop is over -/
def Machine.feed (m : Machine σ) (endTag : Nat) (st : σ) : Item → Outcome (σ × Bool)
  | .delim tag =>
    match m.delim st tag with
    | .error e => .err e
    | .ok (st', code) => .ok (st', decide (code = endTag))
  | .value tag n b => (m.value st tag n b).bind fun st' => .ok (st', false)

/-- only a delimiter that the machine answers with the end tag ends the loop -/
theorem Machine.feed_done {m : Machine σ} {e : Nat} {st st' : σ} {it : Item} (h : m.feed e st it = .ok (st', true)) :
    ∃ tag, it = .delim tag ∧ m.delim st tag = .ok (st', e) := by
  cases it with
  | value tag n b =>
    obtain ⟨_, _, he⟩ := Outcome.bind_eq_ok.mp h
    cases he
  | delim tag =>
    refine ⟨tag, rfl, ?_⟩
    dsimp only [Machine.feed] at h
    split at h
    · cases h
    · rename_i hd
      obtain ⟨rfl, hc⟩ := Prod.mk.inj (Outcome.ok.inj h)
      rw [hd, of_decide_eq_true hc]

theorem driveLoop_succ (rd : Reader ρ) (cfg : LoopCfg) (m : Machine σ) (fuel : Nat) (r : ρ) (st : σ) :
    driveLoop rd cfg m (fuel + 1) r st =
      (rdItem rd cfg r).bind fun p => (m.feed cfg.endTag st p.1).bind fun q =>
        if q.2 then .ok (q.1, p.2) else driveLoop rd cfg m fuel p.2 q.1 := by
  rw [driveLoop, rdItem, ← rdU8_eq]
  cases rdU8 rd r with
  | ok p =>
    dsimp only [Outcome.bind_ok]
    by_cases hd : cfg.isDelim p.1
    · rw [if_pos hd, if_pos hd]
      dsimp only [Outcome.bind_ok, Machine.feed]
      cases m.delim st p.1 with
      | error e => rfl
      | ok q => simp only [Outcome.bind_ok, decide_eq_true_eq]
    · rw [if_neg hd, if_neg hd]
      by_cases hv : cfg.isValue p.1
      · rw [if_pos hv, if_pos hv]
        cases rdLV rd p.2 with
        | ok n =>
          dsimp only [Outcome.bind_ok]
          cases rdLV rd n.2 with
          | ok b => dsimp only [Outcome.bind_ok, Machine.feed]; cases m.value st p.1 n.1 b.1 <;> rfl
          | _ => rfl
        | _ => rfl
      · rw [if_neg hv, if_neg hv]; rfl
  | _ => rfl

theorem driveLoop_fuel_mono (rd : Reader ρ) (cfg : LoopCfg) (m : Machine σ) (f k : Nat) (r : ρ) (st : σ)
    (h : driveLoop rd cfg m f r st ≠ .outOfFuel) :
    driveLoop rd cfg m (f + k) r st = driveLoop rd cfg m f r st := by
  induction f generalizing r st with
  | zero => exact absurd rfl h
  | succ n ih =>
    rw [driveLoop_succ] at h
    rw [Nat.add_right_comm, driveLoop_succ, driveLoop_succ]
    refine Outcome.bind_congr fun p hp => Outcome.bind_congr fun ⟨s, fin⟩ hq => ?_
    simp only [hp, hq, Outcome.bind_ok] at h
    cases fin with
    | true => rfl
    | false => exact ih _ _ h

theorem driveLoop_fuel_transfer (rd : Reader ρ) (cfg : LoopCfg) (m : Machine σ) (f f' : Nat) (r : ρ) (st : σ)
    (h : driveLoop rd cfg m f r st ≠ .outOfFuel) (h' : driveLoop rd cfg m f' r st ≠ .outOfFuel) :
    driveLoop rd cfg m f' r st = driveLoop rd cfg m f r st := by
  rw [← driveLoop_fuel_mono rd cfg m f f' r st h, ← driveLoop_fuel_mono rd cfg m f' f r st h', Nat.add_comm]

theorem parseWith_fuel_mono (rd : Reader ρ) (cfg : LoopCfg) (f k : Nat) (r : ρ) (h : parseWith rd cfg f r ≠ .outOfFuel) :
    parseWith rd cfg (f + k) r = parseWith rd cfg f r := by
  simp only [parseWith_eq] at h ⊢
  refine Outcome.bind_congr fun p hp => ?_
  simp only [hp, Outcome.bind_ok] at h
  rw [driveLoop_fuel_mono _ _ _ _ _ _ _ (fun e => h (by rw [e]; rfl))]

/-- two machines, the second doing on projected states what the first does, projected: so does the loop -/
theorem driveLoop_map (rd : Reader ρ) (cfg : LoopCfg) (m1 : Machine σ1) (m2 : Machine σ2) (π : σ1 → σ2)
    (hd : ∀ s t, m2.delim (π s) t = (m1.delim s t).map fun p => (π p.1, p.2))
    (hv : ∀ s t n b, m2.value (π s) t n b = (m1.value s t n b).map π) (fuel : Nat) : ∀ (r : ρ) (s : σ1),
      driveLoop rd cfg m2 fuel r (π s) = (driveLoop rd cfg m1 fuel r s).map fun x => (π x.1, x.2) := by
  have feed (s it) : m2.feed cfg.endTag (π s) it = (m1.feed cfg.endTag s it).map fun q => (π q.1, q.2) := by
    cases it with
    | delim tag => simp only [Machine.feed, hd]; cases m1.delim s tag <;> rfl
    | value tag n b => simp only [Machine.feed, hv]; cases m1.value s tag n b <;> rfl
  induction fuel with
  | zero => intro r s; rfl
  | succ f ih =>
    intro r s
    simp only [driveLoop_succ, feed, Outcome.map, Outcome.bind_assoc, Outcome.bind_ok]
    refine Outcome.bind_congr fun p _ => Outcome.bind_congr fun q _ => ?_
    split
    · rfl
    · exact ih _ _

/-- same value, related reader states -/
def withRest (R : ρ1 → ρ2 → Prop) (x : α × ρ1) (y : α × ρ2) : Prop := x.1 = y.1 ∧ R x.2 y.2

/-- the two readers answer alike on related states -/
def Sim (rd1 : Reader ρ1) (rd2 : Reader ρ2) (R : ρ1 → ρ2 → Prop) : Prop :=
  ∀ n r1 r2, R r1 r2 → OutRel (withRest R) (ofRead (rd1.readExact n r1)) (ofRead (rd2.readExact n r2))

section lift
variable {rd1 : Reader ρ1} {rd2 : Reader ρ2} {R : ρ1 → ρ2 → Prop}

theorem rdN_sim (H : Sim rd1 rd2 R) (n : Nat) (g : Bytes → Outcome (α × Bytes)) {r1 : ρ1} {r2 : ρ2} (hR : R r1 r2) :
    OutRel (withRest R) (rdN rd1 n g r1) (rdN rd2 n g r2) :=
  (H n r1 r2 hR).bind fun p q ⟨h1, h2⟩ => by
    rw [h1]; exact (OutRel.refl (fun _ => rfl) (g q.1)).bind fun a b hab => .ok ⟨by rw [hab], h2⟩

theorem rdLV_sim (H : Sim rd1 rd2 R) {r1 : ρ1} {r2 : ρ2} (hR : R r1 r2) :
    OutRel (withRest R) (rdLV rd1 r1) (rdLV rd2 r2) := by
  rw [rdLV_eq, rdLV_eq]
  exact (rdN_sim H 2 getU16 hR).bind fun p q ⟨h1, h2⟩ => by rw [h1]; exact H _ _ _ h2

theorem rdHeader_sim (H : Sim rd1 rd2 R) {r1 : ρ1} {r2 : ρ2} (hR : R r1 r2) :
    OutRel (withRest R) (rdHeader rd1 r1) (rdHeader rd2 r2) := by
  rw [rdHeader_eq, rdHeader_eq]
  exact (rdN_sim H 2 getU16 hR).bind fun v v' ⟨hv, h1⟩ => (rdN_sim H 2 getU16 h1).bind fun o o' ⟨ho, h2⟩ =>
    (rdN_sim H 4 getU32 h2).bind fun i i' ⟨hi, h3⟩ => .ok ⟨by rw [hv, ho, hi], h3⟩

theorem rdItem_sim (H : Sim rd1 rd2 R) (cfg : LoopCfg) {r1 : ρ1} {r2 : ρ2} (hR : R r1 r2) :
    OutRel (withRest R) (rdItem rd1 cfg r1) (rdItem rd2 cfg r2) := by
  refine (rdN_sim H 1 getU8 hR).bind fun p q ⟨ht, h1⟩ => ?_
  rw [ht]
  split
  · exact .ok ⟨rfl, h1⟩
  · split
    · exact (rdLV_sim H h1).bind fun n n' ⟨hn, h2⟩ => (rdLV_sim H h2).bind fun b b' ⟨hb, h3⟩ =>
        .ok ⟨by rw [hn, hb], h3⟩
    · exact .err _

theorem driveLoop_sim (H : Sim rd1 rd2 R) (cfg : LoopCfg) (m : Machine σ) (fuel : Nat) (st : σ) {r1 : ρ1} {r2 : ρ2}
    (hR : R r1 r2) : OutRel (withRest R) (driveLoop rd1 cfg m fuel r1 st) (driveLoop rd2 cfg m fuel r2 st) := by
  induction fuel generalizing st r1 r2 with
  | zero => exact .oof
  | succ f ih =>
    rw [driveLoop_succ, driveLoop_succ]
    refine (rdItem_sim H cfg hR).bind fun x y ⟨hxy, hr⟩ => ?_
    rw [hxy]
    refine (OutRel.refl (fun _ => rfl) _).bind fun q q' hq => ?_
    rw [hq]
    split
    · exact .ok ⟨rfl, hr⟩
    · exact ih _ hr

theorem parseWith_sim (H : Sim rd1 rd2 R) (cfg : LoopCfg) (fuel : Nat) {r1 : ρ1} {r2 : ρ2} (hR : R r1 r2) :
    OutRel (withRest R) (parseWith rd1 cfg fuel r1) (parseWith rd2 cfg fuel r2) := by
  rw [parseWith_eq, parseWith_eq]
  exact (rdHeader_sim H hR).bind fun p q ⟨hp, h1⟩ =>
    (driveLoop_sim H cfg pMachine fuel PState.init h1).bind fun x y ⟨hx, h2⟩ => .ok ⟨by rw [hp, hx], h2⟩

end lift

end Ipp
